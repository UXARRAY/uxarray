-- Root of the `UxVerif` library: models (import-free) and property theorems.
import UxVerif.Model.Basic
import UxVerif.Model.Proto
import UxVerif.Model.Edges
import UxVerif.Lemmas.SortUniq
import UxVerif.Lemmas.Rows
import UxVerif.Lemmas.Readers
import UxVerif.Lemmas.Handshake
import UxVerif.Props.C02
import UxVerif.Model.Incidence
import UxVerif.Lemmas.Keyed
import UxVerif.Lemmas.Pipeline
import UxVerif.Props.C03
import UxVerif.Model.Aggregate
import UxVerif.Lemmas.Parts
import UxVerif.Props.C17
import UxVerif.Model.GridEq
import UxVerif.Props.C20
import UxVerif.Model.EdgeOps
import UxVerif.Lemmas.EdgeOps
import UxVerif.Props.C16
import UxVerif.Model.Integrate
import UxVerif.Lemmas.Integrate
import UxVerif.Lemmas.IntegrateRound
import UxVerif.Lemmas.IntegrateClose
import UxVerif.Props.C06
import UxVerif.Model.Dual
import UxVerif.Lemmas.Dual
import UxVerif.Props.C18
import UxVerif.Model.Readers
import UxVerif.Props.C01
import UxVerif.Model.Knn
import UxVerif.Lemmas.Knn
import UxVerif.Props.C11
import UxVerif.Model.Remap
import UxVerif.Props.C12
import UxVerif.Model.Arcs
import UxVerif.Props.C14
import UxVerif.Model.Coords
import UxVerif.Lemmas.Coords
import UxVerif.Props.C04
import UxVerif.Model.Slice
import UxVerif.Lemmas.Slice
import UxVerif.Lemmas.SliceHist
import UxVerif.Lemmas.SliceKnn
import UxVerif.Props.C09
import UxVerif.Props.C09x
import UxVerif.Model.Heap
import UxVerif.Lemmas.Heap
import UxVerif.Props.C19
import UxVerif.Gen.Conventions
import UxVerif.Model.Encode
import UxVerif.Lemmas.EncodeUgrid
import UxVerif.Lemmas.Encode
import UxVerif.Props.C07
import UxVerif.Gen.QuadTables
import UxVerif.Gen.Defaults
import UxVerif.Gen.GridWrites
import UxVerif.Model.Area
import UxVerif.Lemmas.Area
import UxVerif.Props.C05
import UxVerif.Model.Bounds
import UxVerif.Props.C13
import UxVerif.Model.UxdaAlgebra
import UxVerif.Lemmas.ListBasics
import UxVerif.Lemmas.UxdaAlgebra
import UxVerif.Props.C10
import UxVerif.Model.Polys
import UxVerif.Lemmas.Polys
import UxVerif.Props.C15
import UxVerif.Model.Caches
import UxVerif.Lemmas.Caches
import UxVerif.Props.C08
