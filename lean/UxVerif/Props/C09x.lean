/-
  Consequences of C09 that discharge its hypotheses about the SUBSET (`DistinctFaces`,
  `Incidence.Pre`) from hypotheses about the source.  (A module of its own because the harness
  treats `Props/<id>x.lean` as the property's extension module: `harness/common.top_module`.)

  `Props/C09.lean` takes `DistinctFaces B.EF` and `DistinctFaces (B.slice idx).EF` ("no edge lists the
  same face twice") as hypotheses of `efdTransport_of_pre` / `efd_history_independent_of_pre`.
  C02's `edge_faces_distinct` proves that fact for every edge table meeting `Edges.Spec` on a
  standard-form table of SIMPLE faces (pairwise distinct corners, at least three); simplicity is
  inherited by the subset (the node renumbering is injective on the kept nodes).  C03's incidence
  transport (`Lemmas/C03Transport.lean`) makes `Incidence.Pre` and `DistinctFaces` of the subset
  theorems, so the `efd` history theorems need no hypothesis about the subset.
-/
import UxVerif.Props.C09
import UxVerif.Lemmas.Pipeline

namespace UxVerif.C09
open UxVerif UxVerif.Slice UxVerif.Edges

/-- the subset of a table of simple faces consists of simple faces -/
theorem slice_simple {n w : Nat} {s : Src} {idx : List Nat} (h : Pre n w s idx)
    (hs : SimpleFaces s.t) : SimpleFaces (sliceFaces s idx).t := by
  intro r' hr'
  obtain ⟨f, hf, rfl⟩ := mem_sub_t hr'
  obtain ⟨hnd, h3⟩ := hs _ (rowAt_mem (h.lt hf))
  unfold SimpleRow
  rw [faceOf_map remap_fixes_fill, List.length_map]
  exact ⟨hnd.map_on fun a ha b hb heq =>
    remap_inj (Or.inr (corner_selected hf ha)) (Or.inr (corner_selected hf hb)) heq, h3⟩

/-- `DistinctFaces` for the source: from C02's specification and simple faces -/
theorem distinctFaces_of_simple {n w : Nat} (B : Base) (idx : List Nat)
    (h : Pre n w { t := B.t, EN := B.EN, FE := B.FE } idx) (hs : SimpleFaces B.t) :
    DistinctFaces B.EF :=
  C02.edge_faces_distinct h.std hs ⟨_, _, _⟩ h.spec

/-- `DistinctFaces` for the subset: its tables meet C02's specification (`slice_functional`) on a
    standard-form table (`slice_std`) of simple faces (`slice_simple`) -/
theorem distinctFaces_slice_of_simple {n w : Nat} (B : Base) (idx : List Nat)
    (h : Pre n w { t := B.t, EN := B.EN, FE := B.FE } idx) (hs : SimpleFaces B.t) :
    DistinctFaces (B.slice idx).EF :=
  C02.edge_faces_distinct (slice_std h) (slice_simple h hs) ⟨_, _, _⟩ (slice_functional h)

/-- **`efd_history_independent_of_pre` without the two `DistinctFaces` hypotheses**: they follow
    from the precondition and from the faces being simple -/
theorem efd_history_independent_of_simple {n n' w : Nat} {B : Base} {g : State} (hc : Coh B g)
    (he : EfdOK B g) {idx : List Nat} (h : Pre n w { t := B.t, EN := B.EN, FE := B.FE } idx)
    (hP : Incidence.Pre n B.t B.FE B.N B.EN.length)
    (hP' : Incidence.Pre n' (B.slice idx).t (B.slice idx).FE (B.slice idx).N (B.slice idx).EN.length)
    (hs : SimpleFaces B.t) (hist order : List Var) :
    ((runHist g hist).bind (fun g => g.slice idx)).bind (fun u => u.viewEFD order)
      = some (B.slice idx).EFD :=
  efd_history_independent_of_pre hc he h hP hP' (distinctFaces_of_simple B idx h hs)
    (distinctFaces_slice_of_simple B idx h hs) hist order

/-! ### the subset's `Incidence.Pre` and `DistinctFaces` from the source's -/

section Wire
variable {n w : Nat} {s : Src} {idx : List Nat}

theorem subMesh_slice (h : Pre n w s idx) :
    Incidence.SubMesh s.FE (nNodesPerFace s.t) (sliceFaces s idx).FE (nNodesPerFace (sliceFaces s idx).t)
      (sliceFaces s idx).EN.length idx (edgeSel s idx) (remap (edgeSel s idx)) := subMesh h

end Wire

/-- **`Incidence.Pre` of the subset is a theorem** (C03 incidence transport + `slice_std`) -/
theorem pre_slice {n w : Nat} (B : Base) (idx : List Nat)
    (h : Pre n w { t := B.t, EN := B.EN, FE := B.FE } idx)
    (hP : Incidence.Pre n B.t B.FE B.N B.EN.length) :
    Incidence.Pre (sliceFaces { t := B.t, EN := B.EN, FE := B.FE } idx).nodeIdx.length
      (B.slice idx).t (B.slice idx).FE (B.slice idx).N (B.slice idx).EN.length := by
  refine Incidence.pre_sub hP (subMesh h) ((List.length_map _).trans (List.length_map _).symm) ?_
  intro f hf v hv
  have hrow : StdRow _ w (rowAt (B.slice idx).t f) := slice_std h _ (rowAt_mem hf)
  rw [Pipeline.real_of_std hrow] at hv
  exact hrow.2.2.1 v hv

/-- `efdTransport_of_pre` without `hP'` and `hD'` -/
theorem efdTransport_of_pre' {n w : Nat} (B : Base) (idx : List Nat)
    (h : Pre n w { t := B.t, EN := B.EN, FE := B.FE } idx)
    (hP : Incidence.Pre n B.t B.FE B.N B.EN.length)
    (hD : DistinctFaces B.EF) : EFDTransport B idx :=
  efdTransport_of_pre B idx h hP (pre_slice B idx h hP) hD
    (Incidence.distinctFaces_sub hP (subMesh_slice h) hD)

/-- `efd_history_independent_of_pre` without `hP'` and `hD'` -/
theorem efd_history_independent_of_pre' {n w : Nat} {B : Base} {g : State} (hc : Coh B g) (he : EfdOK B g)
    {idx : List Nat} (h : Pre n w { t := B.t, EN := B.EN, FE := B.FE } idx)
    (hP : Incidence.Pre n B.t B.FE B.N B.EN.length)
    (hD : DistinctFaces B.EF) (hist order : List Var) :
    ((runHist g hist).bind (fun g => g.slice idx)).bind (fun u => u.viewEFD order)
      = some (B.slice idx).EFD :=
  efd_history_independent hc he (efdTransport_of_pre' B idx h hP hD) hist order

/-- C03's specification of the subset's incidence tables as `Incidence.build` gives them over
    `nodeIdx.length` nodes, with no hypothesis about the subset.  (`subset_incidence` speaks of the
    tables the view reports, built over `nNodeOf (B.slice idx).t` nodes; the two node counts are not
    related here.) -/
theorem subset_incidence' {n w : Nat} (B : Base) (idx : List Nat)
    (h : Pre n w { t := B.t, EN := B.EN, FE := B.FE } idx)
    (hP : Incidence.Pre n B.t B.FE B.N B.EN.length) :
    Incidence.Spec (sliceFaces { t := B.t, EN := B.EN, FE := B.FE } idx).nodeIdx.length
      (B.slice idx).t (B.slice idx).FE (B.slice idx).N (B.slice idx).EN.length
      (Incidence.build (sliceFaces { t := B.t, EN := B.EN, FE := B.FE } idx).nodeIdx.length (B.slice idx).w
        (B.slice idx).t (B.slice idx).FE (B.slice idx).N (B.slice idx).EN.length) :=
  C03.build_meets_spec (pre_slice B idx h hP)

/-- `efd_history_independent_of_simple` without `hP'`: the only hypotheses left are about the SOURCE
    (C09's `Pre`, C03's `Pre`, simple faces) -/
theorem efd_history_independent_of_simple_src {n w : Nat} {B : Base} {g : State} (hc : Coh B g)
    (he : EfdOK B g) {idx : List Nat} (h : Pre n w { t := B.t, EN := B.EN, FE := B.FE } idx)
    (hP : Incidence.Pre n B.t B.FE B.N B.EN.length)
    (hs : SimpleFaces B.t) (hist order : List Var) :
    ((runHist g hist).bind (fun g => g.slice idx)).bind (fun u => u.viewEFD order)
      = some (B.slice idx).EFD :=
  efd_history_independent_of_simple hc he h hP (pre_slice B idx h hP) hs hist order

end UxVerif.C09
