/-
  C17 — Topological aggregations reduce over exactly each element's nodes.

  Structural, for EVERY reduction `red`, node data function and face-node table: with partition
  data meeting `PartsOK` the scatter/gather loop equals the per-element reduction (`agg_face_eq`,
  `agg_edge_eq`; `agg_leading`, `agg_face_factor`, `agg_rejects`).
  With C02: `PartsOK` holds of `get_face_node_partitions` for any argsort (`parts_ok_any_argsort`),
  so with the corner counts of the C02 model the loop reduces over exactly the real corners
  (`agg_face_real_corners`; `agg_no_padding`, `loop_rows_are_corner_rows`, `agg_face_local`,
  `agg_edge_real_endpoints`).
  Order and sub-grids: `agg_corner_order_irrelevant`, `agg_edge_orientation_irrelevant`,
  `agg_subgrid_commutes`.

  The ten reductions of `NUMPY_AGGREGATIONS` are also exact functions over ℚ (`Aggregate.core`;
  `std` through its square), every finite float64/int/bool being a rational.  The float clause of
  the spec (`Aggregate.accepts`: the output is within a rounding allowance of the exact reduction
  of exactly the element's corner values) is DECIDED BY THE LEAN DRIVER on every output;
  `judge_accepts_exact`, `judge_exact_ops`, `judgeRows_iff` say what its verdict means.

  `parts_ok_any_argsort`, `red_perm_invariant`, `accepts_perm_invariant`, `judge_accepts_exact`,
  `judge_exact_ops` are the property's names for `partsOf_ok` (Lemmas/Parts) and `core_perm`,
  `accepts_perm`, `accepts_of_isValue`, `accepts_exact_iff` (Lemmas/C17Reduce).
-/
import UxVerif.Lemmas.Keyed
import UxVerif.Lemmas.Rows
import UxVerif.Lemmas.Parts
import UxVerif.Lemmas.C17Reduce
import UxVerif.Props.C02

namespace UxVerif.C17
open UxVerif UxVerif.Incidence UxVerif.Aggregate

variable {α β : Type}

/-! ## Structural: every reduction, any partition data meeting `PartsOK` -/

/-- **node → face: the scatter/gather over size partitions equals the per-face reduction over
    exactly each face's corner nodes**, for every reduction and every partition data that
    groups the faces by size. -/
theorem agg_face_eq (red : List α → β) (data : Int → α) (t : Table) (N : List Nat) (p : Parts)
    (h : PartsOK t.length N p) : aggFace red data t p = faceRef red data t N := by
  obtain ⟨hsz, hcov⟩ := h
  refine scatter_eq_map t.length _ (fun f => red ((gather t f (N.getD f 0)).map data)) ?_ ?_
  · intro f hf
    obtain ⟨k, hk, hmem⟩ := hcov f hf
    exact ⟨_, (mem_writes red data t p f _).mpr ⟨k, List.mem_range.mp hk, hmem, rfl⟩⟩
  · intro f v hv
    obtain ⟨k, hk, hmem, rfl⟩ := (mem_writes red data t p f v).mp hv
    rw [(hsz k hk f hmem).2]

/-- one output per face, whatever the partition data -/
theorem agg_face_length (red : List α → β) (data : Int → α) (t : Table) (p : Parts) :
    (aggFace red data t p).length = t.length := by
  unfold aggFace; rw [keyedFold_length]; simp

/-- **leading dimensions**: the operator acts independently along leading indices (it is a map
    over the list of leading slices), so the per-face statement lifts to any rank. -/
theorem agg_leading (red : List α → β) (datas : List (Int → α)) (t : Table) (N : List Nat)
    (p : Parts) (h : PartsOK t.length N p) :
    datas.map (fun d => aggFace red d t p) = datas.map (fun d => faceRef red d t N) := by
  apply List.map_congr_left
  intro d _
  exact agg_face_eq red d t N p h

/-- the aggregation with ANY reduction is that reduction applied to the gathered rows
    (`agg_face_eq` for `red` and for the identity) -/
theorem agg_face_factor (red : List α → β) (data : Int → α) (t : Table) (N : List Nat) (p : Parts)
    (h : PartsOK t.length N p) :
    aggFace red data t p = (aggFace (fun row => row) data t p).map (Option.map red) := by
  rw [agg_face_eq red data t N p h, agg_face_eq (fun row => row) data t N p h, faceRef, faceRef,
    List.map_map]
  rfl

/-- **node → edge**: each edge gets the reduction over exactly its two end nodes. -/
theorem agg_edge_eq (red : List α → β) (data : Int → α) (E : List (Int × Int)) (e : Nat)
    (he : e < E.length) :
    (aggEdge red data E)[e]? = some (red [data E[e].1, data E[e].2]) := by
  simp [aggEdge, he]

/-- one output per edge -/
theorem agg_edge_length (red : List α → β) (data : Int → α) (E : List (Int × Int)) :
    (aggEdge red data E).length = E.length := by simp [aggEdge]

/-- **unsupported source/destination combinations raise**: numbers are returned only for
    node-centred data sent to faces or edges. -/
theorem agg_rejects (c : Centre) (d : Dest) :
    (dispatch c d = .toFace ↔ c = .node ∧ d = .face) ∧
    (dispatch c d = .toEdge ↔ c = .node ∧ d = .edge) := by
  cases c <;> cases d <;> decide

/-! ## With C02: the partitions of `get_face_node_partitions` on a standard-form table -/

/-- **`get_face_node_partitions` is correct for every `argsort` tie-breaking**: whatever
    permutation sorts the face sizes, the partition data group the faces by size. -/
theorem parts_ok_any_argsort (N perm : List Nat) (h : SortsBy N perm) :
    PartsOK N.length N (partsOf N perm) := partsOf_ok N perm h

/-- `agg_face_eq` for the partitions `get_face_node_partitions` computes, whatever `argsort`
    returns. -/
theorem agg_face_eq_any_argsort (red : List α → β) (data : Int → α) (t : Table) (N perm : List Nat)
    (hN : N.length = t.length) (h : SortsBy N perm) :
    aggFace red data t (partsOf N perm) = faceRef red data t N :=
  agg_face_eq red data t N (partsOf N perm) (hN ▸ partsOf_ok N perm h)

/-- **padding never contributes**: on a standard-form table the gathered indices of face `f`
    are its real corners — valid node numbers, never `FILL`. -/
theorem agg_no_padding {n w : Nat} {t : Table} (h : Edges.StdForm n w t) (f : Nat)
    (hf : f < t.length) :
    gather t f (Edges.nNodesRow (rowAt t f)) = faceOf (rowAt t f) ∧
    ∀ x ∈ gather t f (Edges.nNodesRow (rowAt t f)), x ≠ FILL ∧ 0 ≤ x ∧ x < n := by
  refine ⟨gather_nNodesRow t f, fun x hx => ?_⟩
  rw [gather_nNodesRow] at hx
  exact ⟨faceOf_ne_fill _ x hx, (h _ (rowAt_mem hf)).2.2.1 x hx⟩

/-- **C02 ∘ C17 end to end**: with the corner counts the C02 model derives from the face table
    and the partitions computed from ANY sorting permutation of them, the aggregation of face `f`
    is the reduction over exactly the real corners of row `f` — no intermediate table is left as
    a hypothesis. -/
theorem agg_face_real_corners {n w : Nat} {t : Table} (h : Edges.StdForm n w t)
    (red : List α → β) (data : Int → α) (perm : List Nat)
    (hp : SortsBy (Edges.nNodesPerFace t) perm) :
    aggFace red data t (partsOf (Edges.nNodesPerFace t) perm)
      = t.map (fun r => some (red ((faceOf r).map data))) := by
  rw [agg_face_eq_any_argsort red data t (Edges.nNodesPerFace t) perm (List.length_map _) hp,
    faceRef_nNodesPerFace]

/-- **the rows the partition loop gathers are exactly the values on each face's real corners**
    (the C02 ∘ C17 statement with `red = id`): the rows the driver judges the implementation
    against are the rows the property prescribes. -/
theorem loop_rows_are_corner_rows {n w : Nat} {t : Table} (h : Edges.StdForm n w t)
    (data : Int → Rat) (perm : List Nat) (hp : SortsBy (Edges.nNodesPerFace t) perm) :
    loopRows data t (partsOf (Edges.nNodesPerFace t) perm) = (cornerRows data t).map some := by
  rw [loopRows, cornerRows, agg_face_real_corners h (fun row => row) data perm hp, List.map_map]
  rfl

/-- **locality**: the aggregated value of face `f` depends on the data only through the values
    on the real corners of `f` — no other node contributes. -/
theorem agg_face_local {n w : Nat} {t : Table} (h : Edges.StdForm n w t)
    (red : List α → β) (data data' : Int → α) (perm : List Nat)
    (hp : SortsBy (Edges.nNodesPerFace t) perm) (f : Nat) (hf : f < t.length)
    (hag : ∀ x ∈ faceOf t[f], data x = data' x) :
    (aggFace red data t (partsOf (Edges.nNodesPerFace t) perm))[f]? =
      (aggFace red data' t (partsOf (Edges.nNodesPerFace t) perm))[f]? := by
  rw [agg_face_real_corners h red data perm hp, agg_face_real_corners h red data' perm hp,
    List.getElem?_map, List.getElem?_map, List.getElem?_eq_getElem hf, Option.map_some,
    Option.map_some, List.map_congr_left hag]

/-- **C02 ∘ C17 for edges**: on the edge table the C02 model derives from ANY standard-form face
    table, each aggregated edge value is the reduction over exactly its two end values, and the two
    ends are real nodes (never padding) that are consecutive corners of some face. -/
theorem agg_edge_real_endpoints {n w : Nat} {t : Table} (h : Edges.StdForm n w t)
    (red : List α → β) (data : Int → α) (i : Nat) (hi : i < (Edges.edges t).length) :
    (aggEdge red data (Edges.edges t))[i]?
        = some (red [data (Edges.edges t)[i].1, data (Edges.edges t)[i].2]) ∧
      (Edges.edges t)[i].1 ≠ FILL ∧ (Edges.edges t)[i].2 ≠ FILL ∧
      ∃ r ∈ t, sortPair (Edges.edges t)[i] ∈ Edges.rowSegs r := by
  refine ⟨agg_edge_eq red data _ i hi, ?_⟩
  exact UxVerif.C02.edges_sound h _ (List.getElem_mem hi)

/-! ## Corner order, edge orientation, sub-grids -/

/-- **start corner and orientation of each face row are irrelevant**: two standard-form tables
    whose rows list the same corners in any order give the same aggregation, for each of the ten
    reductions and any argsort tie-breaking on either side. -/
theorem agg_corner_order_irrelevant {n w n' w' : Nat} {t t' : Table}
    (h : Edges.StdForm n w t) (h' : Edges.StdForm n' w' t')
    (hperm : List.Forall₂ (fun r r' => (faceOf r).Perm (faceOf r')) t t')
    (op : Red) (ddof : Nat) (data : Int → Rat) (perm perm' : List Nat)
    (hp : SortsBy (Edges.nNodesPerFace t) perm) (hp' : SortsBy (Edges.nNodesPerFace t') perm') :
    aggFace (core op ddof) data t (partsOf (Edges.nNodesPerFace t) perm)
      = aggFace (core op ddof) data t' (partsOf (Edges.nNodesPerFace t') perm') := by
  rw [agg_face_real_corners h _ data perm hp, agg_face_real_corners h' _ data perm' hp']
  exact map_corner_perm op ddof data hperm

/-- **node → edge: the orientation of an edge is irrelevant** to each of the ten reductions, and
    the gathered edge rows are exactly the two end values. -/
theorem agg_edge_orientation_irrelevant (op : Red) (ddof : Nat) (data : Int → Rat)
    (E : List (Int × Int)) :
    edgeRows data E = E.map (fun e => [data e.1, data e.2]) ∧
    aggEdge (core op ddof) data E = aggEdge (core op ddof) data (E.map Prod.swap) := by
  refine ⟨by simp [edgeRows, aggEdge], ?_⟩
  simp only [aggEdge, List.map_map]
  apply List.map_congr_left
  intro e _
  exact core_perm op ddof (List.Perm.swap _ _ _)

/-- **aggregation commutes with taking a sub-grid**: on the sub-grid whose rows are the selected
    parent rows with renumbered nodes, carrying the parent's node values along the renumbering,
    the aggregation is the selection of the parent's aggregation — for every reduction and any
    argsort tie-breaking on either grid. -/
theorem agg_subgrid_commutes {n w n' w' : Nat} {t : Table} (h : Edges.StdForm n w t)
    (idx : List Nat) (hidx : ∀ f ∈ idx, f < t.length)
    (ren : Int → Int) (hren : ∀ x, ren x = FILL ↔ x = FILL)
    (h' : Edges.StdForm n' w' (subTable t idx ren))
    (red : List α → β) (data data' : Int → α)
    (hdata : ∀ f ∈ idx, ∀ x ∈ faceOf (rowAt t f), data' (ren x) = data x)
    (perm perm' : List Nat) (hp : SortsBy (Edges.nNodesPerFace t) perm)
    (hp' : SortsBy (Edges.nNodesPerFace (subTable t idx ren)) perm') :
    aggFace red data' (subTable t idx ren) (partsOf (Edges.nNodesPerFace (subTable t idx ren)) perm')
      = idx.map (fun f => (aggFace red data t (partsOf (Edges.nNodesPerFace t) perm)).getD f none) := by
  rw [agg_face_real_corners h' red data' perm' hp', agg_face_real_corners h red data perm hp]
  rw [subTable, List.map_map]
  apply List.map_congr_left
  intro f hf
  have hft := hidx f hf
  rw [Function.comp_apply, List.getD_eq_getElem?_getD, List.getElem?_map,
    List.getElem?_eq_getElem hft, Option.map_some, Option.getD_some, ← rowAt_getElem _ _ hft,
    faceOf_map hren, List.map_map]
  exact congrArg (fun l => some (red l)) (List.map_congr_left (hdata f hf))

/-- the same with the standard form of the sub-grid table DERIVED (renumbering into `[0, n')`) -/
theorem agg_subgrid_commutes_std {n w n' : Nat} {t : Table} (h : Edges.StdForm n w t)
    (idx : List Nat) (hidx : ∀ f ∈ idx, f < t.length)
    (ren : Int → Int) (hren : ∀ x, ren x = FILL ↔ x = FILL)
    (hrng : ∀ f ∈ idx, ∀ x ∈ faceOf (rowAt t f), 0 ≤ ren x ∧ ren x < n')
    (red : List α → β) (data data' : Int → α)
    (hdata : ∀ f ∈ idx, ∀ x ∈ faceOf (rowAt t f), data' (ren x) = data x)
    (perm perm' : List Nat) (hp : SortsBy (Edges.nNodesPerFace t) perm)
    (hp' : SortsBy (Edges.nNodesPerFace (subTable t idx ren)) perm') :
    aggFace red data' (subTable t idx ren) (partsOf (Edges.nNodesPerFace (subTable t idx ren)) perm')
      = idx.map (fun f => (aggFace red data t (partsOf (Edges.nNodesPerFace t) perm)).getD f none) :=
  agg_subgrid_commutes h idx hidx ren hren (subTable_stdForm h idx hidx ren hren hrng)
    red data data' hdata perm perm' hp hp'

/-! ## The ten reductions and the judge -/

/-- **corner order / start corner is irrelevant to every one of the ten reductions**: the exact
    value depends only on the multiset of the gathered row. -/
theorem red_perm_invariant (op : Red) (ddof : Nat) {l₁ l₂ : List Rat} (h : l₁.Perm l₂) :
    core op ddof l₁ = core op ddof l₂ := core_perm op ddof h

/-- … and so does the verdict of the float clause (value AND rounding allowance). -/
theorem accepts_perm_invariant (op : Red) (ddof : Nat) {l₁ l₂ : List Rat} (h : l₁.Perm l₂)
    (y : Rat) : accepts op ddof l₁ y = accepts op ddof l₂ y := accepts_perm op ddof h y

/-- the model's `min` / `max` are the least / greatest MEMBER of the row (never a value from
    elsewhere; `ddof`, here 0, plays no part in them), its sorted row is the ascending
    rearrangement of the row. -/
theorem red_min_max_sort_spec (l : List Rat) :
    (∀ m, core .min 0 l = some m ↔ m ∈ l ∧ ∀ x ∈ l, m ≤ x) ∧
    (∀ m, core .max 0 l = some m ↔ m ∈ l ∧ ∀ x ∈ l, x ≤ m) ∧
    (sortQ l).Perm l ∧ (sortQ l).Pairwise (· ≤ ·) :=
  ⟨qmin_spec l, qmax_spec l, perm_sortQ l, sortQ_sorted l⟩

/-- **the judge never rejects the exact value** (the allowance is non-negative): a rejection is
    a deviation beyond float64 rounding. -/
theorem judge_accepts_exact (op : Red) (ddof : Nat) (row : List Rat) (y : Rat)
    (h : IsValue op ddof row y) : accepts op ddof row y = true :=
  accepts_of_isValue op ddof row y h

/-- **for min, max, all, any the judge accepts exactly the true value** (no allowance). -/
theorem judge_exact_ops (op : Red) (ddof : Nat) (row : List Rat) (y : Rat)
    (hop : op = .min ∨ op = .max ∨ op = .all ∨ op = .any) :
    accepts op ddof row y = true ↔ IsValue op ddof row y :=
  accepts_exact_iff op ddof row y hop

/-- what the driver's verdict on a result vector means: one accepted finite output per
    prescribed row. -/
theorem judgeRows_iff (op : Red) (ddof : Nat) (rows : List (List Rat)) (out : List (Option Rat)) :
    judgeRows op ddof rows out = true ↔
      rows.length = out.length ∧
      ∀ i (h₁ : i < rows.length) (h₂ : i < out.length),
        ∃ y, out[i] = some y ∧ accepts op ddof rows[i] y = true :=
  (judgeRows_forall₂ op ddof rows out).trans List.forall₂_iff_get

/-! ## Examples -/

example : SortsBy [4, 3, 4, 3, 5] [3, 1, 0, 2, 4] := by decide +kernel
/-- a triangle and a quad in "wrong" order, partitions as numpy returns them -/
example : PartsOK 3 [4, 3, 4] { change := [0, 1, 3], perm := [1, 0, 2], sizes := [3, 4] } := by
  decide +kernel
example : aggFace (fun l => l.foldl (· + ·) 0) (fun i => i) [[0, 1, 2, 3], [2, 1, 4, FILL], [5, 6, 7, 8]]
    { change := [0, 1, 3], perm := [1, 0, 2], sizes := [3, 4] } = [some 6, some 7, some 26] := by
  decide +kernel
/-- a partition that mixes sizes is rejected by the hypothesis -/
example : ¬ PartsOK 3 [4, 3, 4] { change := [0, 2, 3], perm := [1, 0, 2], sizes := [3, 4] } := by
  decide +kernel

/-- the ten reductions on the corner values 1, 4, 2, 2 of a quad (std: its square) -/
example : [Red.mean, .max, .min, .prod, .sum, .std, .var, .median, .all, .any].map
      (fun op => core op 0 [1, 4, 2, 2])
    = [some (9/4), some 4, some 1, some 16, some 9, some (19/16), some (19/16), some 2, some 1, some 1] := by
  decide +kernel
/-- even/odd medians, ddof = 1, a zero among non-bool data, empty rows -/
example : core .median 0 [5, 1, 3] = some 3 ∧ core .median 0 [5, 1, 3, 2] = some (5/2) ∧
    core .var 1 [1, 4, 2, 2] = some (19/12) ∧ core .all 0 [3, 0, 2] = some 0 ∧
    core .any 0 [0, 0, 2] = some 1 ∧ core .mean 0 [] = none ∧ core .var 1 [7] = none := by
  decide +kernel
/-- rotating / reversing the row changes nothing, dropping a corner or reading a padding slot does -/
example : core .mean 0 [1, 4, 2, 2] = core .mean 0 [2, 2, 4, 1] ∧
    core .mean 0 [1, 4, 2, 2] ≠ core .mean 0 [1, 4, 2] ∧
    core .median 0 [1, 4, 3, 2] ≠ core .median 0 [1, 4, 3, 2, 0] := by decide +kernel
/-- the judge: an exact value and a last-bit deviation pass, a wrong divisor (ddof) or a missing
    corner fails; for min no deviation passes -/
example : accepts .mean 0 [1, 4, 2, 2] (9/4) = true ∧
    accepts .mean 0 [1, 4, 2, 2] (9/4 + eps) = true ∧
    accepts .mean 0 [1, 4, 2, 2] (7/3) = false ∧
    accepts .var 0 [1, 4, 2, 2] (19/12) = false ∧
    accepts .std 1 [1, 3] 2 = false ∧ accepts .std 0 [1, 3] 1 = true ∧
    accepts .min 0 [1, 4, 2, 2] (1 + eps) = false := by decide +kernel
example : judgeRows .sum 0 [[1, 2, 3], [4, 5]] [some 6, some 9] = true ∧
    judgeRows .sum 0 [[1, 2, 3], [4, 5]] [some 6, none] = false ∧
    judgeRows .sum 0 [[1, 2, 3], [4, 5]] [some 6] = false := by decide +kernel
/-- a mixed table: the loop's rows are the corner rows; the same faces started at another corner -/
example : loopRows (fun i => (i : Rat) / 2) [[0, 1, 2, 3], [2, 1, 4, FILL]]
      (partsOf [4, 3] [1, 0]) = [some [0, 1/2, 1, 3/2], some [1, 1/2, 2]] := by decide +kernel
example : List.Forall₂ (fun r r' => (faceOf r).Perm (faceOf r'))
    [[0, 1, 2, 3], [2, 1, 4, FILL]] [[2, 3, 0, 1], [4, 2, 1, FILL]] := by
  refine .cons ?_ (.cons ?_ .nil) <;> decide +kernel
/-- a sub-grid: face 1 of the parent, nodes renumbered 1↦0, 2↦1, 4↦2 -/
example : subTable [[0, 1, 2, 3], [2, 1, 4, FILL]] [1]
      (fun x => if x = 1 then 0 else if x = 2 then 1 else if x = 4 then 2 else x)
    = [[1, 0, 2, FILL]] := by decide +kernel

end UxVerif.C17
