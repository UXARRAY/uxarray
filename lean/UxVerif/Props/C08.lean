/-
  C08 — Reading from a grid never changes what any grid reports.

  Model: `UxVerif/Model/Caches.lean`; memoisation lemmas: `UxVerif/Lemmas/Caches.lean`.
  For EVERY model whose table passes the decidable check for the sources involved, histories of ANY
  length over ANY number of grids: `memo_sound`, `world_history_independent`, `frame_results`,
  `globals_const`, `export_superset`; the repaired library is such a model (`ux_mwf`), whence
  `ux_history_independent`.  `lookup_sound`: a keyed cache in isolation.  `traceOK_iff`: the predicate
  the driver evaluates.  `asis_*`: counterexamples for the defects of the snapshot, one field of
  `Caches.Flags` each ("fix <hash>" = the commit of /repo that repaired it; a "seeded change" is a
  deliberately wrong variant kept under /verif/seeded/<id>).  `gen_*`: the model's read/write table
  is the one regenerated from the source.
-/
import UxVerif.Lemmas.Caches
import UxVerif.Gen.GridWrites

namespace UxVerif.C08
open UxVerif.Caches

/-! ## a keyed cache in isolation (`hsound` is `SoundPolicy` with `compute k = (P.fn k, P.reads k)`) -/

/-- one request to a single-slot keyed cache: `keyEq` is the comparison made on reuse, `keyStored`
    what is recorded next to the object, `force` = override/reconstruct, `store` = cache flag -/
def cacheGet {K V : Type} (keyEq : K → K → Bool) (keyStored : K → K) (compute : K → V)
    (c : Option (K × V)) (k : K) (force store : Bool) : Option (K × V) × V :=
  match (if force then none else c.filter (fun e => keyEq e.1 k)) with
  | some e => (c, e.2)
  | none => (if store then some (keyStored k, compute k) else c, compute k)

def cacheRun {K V : Type} (keyEq : K → K → Bool) (keyStored : K → K) (compute : K → V) :
    Option (K × V) → List (K × Bool × Bool) → Option (K × V)
  | c, [] => c
  | c, (k, f, s) :: rest =>
      cacheRun keyEq keyStored compute (cacheGet keyEq keyStored compute c k f s).1 rest

section Slot
variable {K V : Type} {keyEq : K → K → Bool} {keyStored : K → K} {compute : K → V}
  {c : Option (K × V)}

def SlotOK (keyStored : K → K) (compute : K → V) (c : Option (K × V)) : Prop :=
  ∀ e, c = some e → ∃ k0, e = (keyStored k0, compute k0)

theorem cacheGet_slot (hc : SlotOK keyStored compute c) (k : K) (force store : Bool) :
    SlotOK keyStored compute (cacheGet keyEq keyStored compute c k force store).1 := by
  intro e he
  unfold cacheGet at he
  split at he
  · exact hc e he
  · split at he
    · cases he; exact ⟨k, rfl⟩
    · exact hc e he

theorem cacheRun_slot : ∀ (h : List (K × Bool × Bool)) {c : Option (K × V)},
    SlotOK keyStored compute c → SlotOK keyStored compute (cacheRun keyEq keyStored compute c h)
  | [], _, hc => hc
  | (k, f, s) :: rest, _, hc => cacheRun_slot rest (cacheGet_slot hc k f s)

theorem cacheGet_val (hsound : ∀ k k', keyEq (keyStored k) k' = true → compute k = compute k')
    (hc : SlotOK keyStored compute c) (k : K) (force store : Bool) :
    (cacheGet keyEq keyStored compute c k force store).2 = compute k := by
  unfold cacheGet
  split
  · rename_i e hhit
    split at hhit
    · cases hhit
    · obtain ⟨hce, hk⟩ := Option.filter_eq_some_iff.mp hhit
      obtain ⟨k0, rfl⟩ := hc e hce
      exact hsound k0 k hk
  · rfl

end Slot

/-- `lookup_sound`: if a positive reuse test implies that the cached object is the one the request
    would compute (all result-relevant fields are compared and recorded), the cache returns
    `compute key` after ANY history of requests (any keys, override and cache flags). -/
theorem lookup_sound {K V : Type} (keyEq : K → K → Bool) (keyStored : K → K) (compute : K → V)
    (hsound : ∀ k k', keyEq (keyStored k) k' = true → compute k = compute k')
    (h : List (K × Bool × Bool)) (k : K) (force store : Bool) :
    (cacheGet keyEq keyStored compute (cacheRun keyEq keyStored compute none h) k force store).2
      = compute k :=
  cacheGet_val hsound (cacheRun_slot h (by intro _ he; cases he)) k force store

/-- non-vacuity: a cache that compares the whole key is sound … -/
example : (cacheGet (fun a b : Nat × Nat => a == b) id (fun k => k.1 + k.2)
    (cacheRun (fun a b : Nat × Nat => a == b) id (fun k => k.1 + k.2) none [((1, 2), false, true)])
    (1, 5) false true).2 = 6 := by decide
/-- … one that compares the first field only is not (the hypothesis of `lookup_sound` is needed) -/
example : (cacheGet (fun a b : Nat × Nat => a.1 == b.1) id (fun k => k.1 + k.2)
    (cacheRun (fun a b : Nat × Nat => a.1 == b.1) id (fun k => k.1 + k.2) none [((1, 2), false, true)])
    (1, 5) false true).2 = 3 := by decide

/-! ## any well-formed model -/

/-- **Memoisation.**  For ANY population table passing the decidable check `wfB` and ANY store in
    which every entry is its reference value (`Inv`): a property getter returns the reference value
    `fr v` (what the pure recursion over the source yields — no store, no history), only adds
    entries, keeps `Inv`, and leaves the module globals alone.  (`Lemmas/Caches.lean`, induction on
    the nesting depth of getters; the fold over a unit's writes is `writes_fold`.) -/
theorem memo_sound {T : Table} {sig : Var → Bool} (s : Nat) (h : wfB T sig = true) (n : Nat) (v : Var)
    (σ : St) (hinv : Inv T sig s σ.1) (hfuel : sig v = true ∨ T.rk v < n) :
    Post T sig s v σ (getV T n v σ) :=
  getV_sound s (wf_of_wfB h) n v σ hinv hfuel

/-- every grid of the world is consistent with its source and the module globals are pristine -/
def WorldInv (M : Model) (w : World) : Prop :=
  w.gl = {} ∧ ∀ g ∈ w.grids, MWF M g.sigF ∧ GInv M g

/-- despite the name, a condition on the `open_` events only: every source opened during the
    history is one the model is well-formed for (all operations of `Caches.Op` are read-only by
    construction) -/
def Readonly (M : Model) (h : List Ev) : Prop :=
  ∀ sig, Ev.open_ sig ∈ h → MWF M (sigOf sig)

theorem step_inv {M : Model} {w : World} (hw : WorldInv M w) (e : Ev)
    (he : ∀ sig, e = Ev.open_ sig → MWF M (sigOf sig)) : WorldInv M (w.step M e).1 := by
  cases e with
  | on i o =>
    simp only [World.step]
    cases hgi : w.grids[i]? with
    | none => exact hw
    | some g =>
      obtain ⟨hm, hg⟩ := hw.2 g (List.mem_of_getElem? hgi)
      obtain ⟨hg', hgl, -⟩ := stepGrid_spec hm hg w.gl o
      refine ⟨hgl.trans hw.1, fun g' hmem => ?_⟩
      rcases List.mem_or_eq_of_mem_set hmem with h | rfl
      · exact hw.2 g' h
      · exact ⟨Grid.sigF_congr (stepGrid_sig_sid M g w.gl o).1 ▸ hm, hg'⟩
  | open_ sig =>
    refine ⟨hw.1, fun g hg => ?_⟩
    rcases List.mem_append.mp hg with h | h
    · exact hw.2 g h
    · cases List.mem_singleton.mp h
      exact ⟨he sig rfl, open_inv _ _ _ (he sig rfl).noSide⟩

theorem run_inv {M : Model} (h : List Ev) : ∀ {w : World}, WorldInv M w → Readonly M h →
    WorldInv M (w.run M h) := by
  induction h with
  | nil => intro w hw _; exact hw
  | cons e rest ih =>
    intro w hw hr
    exact ih (step_inv hw e (fun sig hs => hr sig (hs ▸ List.mem_cons_self ..)))
      (fun sig hs => hr sig (List.mem_cons_of_mem _ hs))

/-- grids are never removed or re-sourced (any model): grid `i` keeps its source signature and
    identifier -/
theorem step_keeps (M : Model) (w : World) (e : Ev) {i : Nat} {g : Grid}
    (hg : w.grids[i]? = some g) :
    ∃ g', (w.step M e).1.grids[i]? = some g' ∧ g'.sig = g.sig ∧ g'.sid = g.sid := by
  have hlt : i < w.grids.length := (List.getElem?_eq_some_iff.mp hg).1
  cases e with
  | on j o =>
    simp only [World.step]
    cases hgj : w.grids[j]? with
    | none => exact ⟨g, hg, rfl, rfl⟩
    | some gj =>
      by_cases hij : j = i
      · subst hij
        cases hg.symm.trans hgj
        exact ⟨_, by simp [hlt], stepGrid_sig_sid M g w.gl o⟩
      · exact ⟨g, by simp [List.getElem?_set_ne hij, hg], rfl, rfl⟩
  | open_ sig =>
    exact ⟨g, (List.getElem?_append_left hlt).trans hg, rfl, rfl⟩

theorem run_keeps (M : Model) (h : List Ev) : ∀ (w : World) {i : Nat} {g : Grid},
    w.grids[i]? = some g →
    ∃ g', (w.run M h).grids[i]? = some g' ∧ g'.sig = g.sig ∧ g'.sid = g.sid := by
  induction h with
  | nil => intro w i g hg; exact ⟨g, hg, rfl, rfl⟩
  | cons e rest ih =>
    intro w i g hg
    obtain ⟨g1, h1, hs1, hd1⟩ := step_keeps M w e hg
    obtain ⟨g2, h2, hs2, hd2⟩ := ih _ h1
    exact ⟨g2, h2, hs2.trans hs1, hd2.trans hd1⟩

theorem res_eq_spec {M : Model} {w : World} (hw : WorldInv M w) {i : Nat} {g : Grid}
    (hg : w.grids[i]? = some g) {o : Op} (ho : o.isValue = true) :
    w.res M i o = spec M g.sigF g.sid o := by
  obtain ⟨hm, hgi⟩ := hw.2 g (List.mem_of_getElem? hg)
  simp only [World.res, World.step, hg]
  exact (stepGrid_spec hm hgi w.gl o).2.2 ho

theorem ref_eq_spec {M : Model} {sig : List Var} (sid : Nat) (hm : MWF M (sigOf sig)) {o : Op}
    (ho : o.isValue = true) : refRes M sig sid o = spec M (sigOf sig) sid o :=
  (stepGrid_spec (g := openGrid M {} sig sid) hm (open_inv sig sid {} hm.noSide) {} o).2.2 ho

/-- **History independence.**  After ANY history `h` (operations on any grids, sources opened at
    any point), any value operation `o` on any grid `i` returns what it returned before the
    history — and that is what a freshly opened copy of the same source returns. -/
theorem world_history_independent {M : Model} {w0 : World} (h : List Ev) (i : Nat) (o : Op)
    (hw : WorldInv M w0) (hr : Readonly M h) {g : Grid} (hg : w0.grids[i]? = some g)
    (ho : o.isValue = true) :
    (w0.run M h).res M i o = w0.res M i o ∧ w0.res M i o = refRes M g.sig g.sid o := by
  obtain ⟨g', hg', hs, hd⟩ := run_keeps M h w0 hg
  constructor
  · rw [res_eq_spec (run_inv h hw hr) hg' ho, res_eq_spec hw hg ho, Grid.sigF_congr hs, hd]
  · rw [res_eq_spec hw hg ho, ref_eq_spec g.sid (hw.2 g (List.mem_of_getElem? hg)).1 ho]; rfl

/-- **Frame.**  An operation on grid `i` leaves the state of every other grid as it was — in any
    model, also the as-is one (what may leak is the module globals, see `asis_leak`) … -/
theorem frame (M : Model) (w : World) (i j : Nat) (o : Op) (hij : i ≠ j) :
    (w.step M (.on i o)).1.grids[j]? = w.grids[j]? := by
  simp only [World.step]
  cases hgi : w.grids[i]? with
  | none => rfl
  | some g => exact List.getElem?_set_ne hij

/-- … and in a well-formed model the globals stay as well, so every other grid's results do. -/
theorem frame_results {M : Model} {w : World} (hw : WorldInv M w) (i j : Nat) (o o' : Op)
    {g : Grid} (hg : w.grids[j]? = some g) (ho' : o'.isValue = true) :
    (w.step M (.on i o)).1.res M j o' = w.res M j o' :=
  (world_history_independent [.on i o] j o' hw (by intro sig hs; simp at hs) hg ho').1

/-- **Globals.**  No history changes a module-level container. -/
theorem globals_const {M : Model} {w0 : World} (h : List Ev) (hw : WorldInv M w0)
    (hr : Readonly M h) : (w0.run M h).gl = w0.gl := by
  rw [(run_inv h hw hr).1, hw.1]

/-- **Exports.**  `to_xarray()` after any history contains everything a fresh grid's export
    contains, and every entry — in particular every additional, derived one — holds the reference
    value of its variable. -/
theorem export_superset {M : Model} {w0 : World} (h : List Ev) (i : Nat) (hw : WorldInv M w0)
    (hr : Readonly M h) {g : Grid} (hg : w0.grids[i]? = some g) :
    ∃ l, (w0.run M h).res M i .export_ = .vars l ∧
      (∀ p, refRes M g.sig g.sid .export_ = .vars p → ∀ x ∈ p, x ∈ l) ∧
      (∀ x ∈ l, x.2 = fr (M.table g.sigF) g.sigF g.sid x.1) := by
  obtain ⟨g', hg', hs, hd⟩ := run_keeps M h w0 hg
  have hinv := ((run_inv h hw hr).2 g' (List.mem_of_getElem? hg')).2.inv
  rw [Grid.sigF_congr hs, hd] at hinv
  have hopen := (open_inv g.sig g.sid {} (hw.2 g (List.mem_of_getElem? hg)).1.noSide).inv
  refine ⟨exportOf g'.st, by simp [World.res, World.step, hg', stepGrid], ?_, ?_⟩
  · intro p hp x hx
    cases hp
    -- an entry of the fresh export is a supplied variable: present in `g'`, with the same value
    obtain ⟨hds, e0, he0, hx0⟩ := mem_exportOf.mp hx
    have hsig : g.sigF x.1 = true := by
      have := openGrid_isSome M {} g.sig g.sid x.1
      rw [he0] at this
      exact this.symm
    obtain ⟨e, he⟩ := Option.isSome_iff_exists.mp (hinv.srcp _ hsig)
    exact mem_exportOf.mpr ⟨hds, e, he, hx0.trans ((hopen.obs_eq he0).trans (hinv.obs_eq he).symm)⟩
  · intro x hx
    obtain ⟨-, e, he, hx0⟩ := mem_exportOf.mp hx
    exact hx0.trans (hinv.obs_eq he)

/-! ## the repaired library is well-formed -/

/-- a source the library accepts: faces plus node coordinates (spherical or Cartesian);
    anything else may or may not be supplied -/
def Admissible (sig : List Var) : Prop :=
  sigOf sig .faceNode = true ∧ (sigOf sig .nodeLL = true ∨ sigOf sig .nodeXYZ = true)

instance (sig : List Var) : Decidable (Admissible sig) := by unfold Admissible; infer_instance

theorem ux_pol (c : CacheId) : SoundPolicy ((uxModel repaired).cache c) := by
  cases c <;> exact soundPolicy_of_eq (fun _ _ => rfl) (fun _ => rfl)

theorem ux_fuel (sig : Var → Bool) (v : Var) : ((uxModel repaired).table sig).rk v < FUEL := by
  show uxRank v < FUEL
  cases v <;> decide

/-- the model's units do not depend on what the source supplies -/
theorem uxUnit_sig_indep (fl : Flags) (sig sig' : Var → Bool) (v : Var) :
    uxUnit fl sig v = uxUnit fl sig' v := by
  cases v <;> rfl

theorem uxTable_sig_indep (fl : Flags) (sig sig' : Var → Bool) : uxTable fl sig = uxTable fl sig' := by
  unfold uxTable
  rw [funext (uxUnit_sig_indep fl sig sig')]

theorem ux_meth (sig : Var → Bool) (h2 : sig .nodeLL = true ∨ sig .nodeXYZ = true) (m : Nat) :
    methodOK ((uxModel repaired).table sig) sig ((uxModel repaired).method m) = true := by
  show methodOK (uxTable repaired sig) sig (uxMethod repaired m) = true
  unfold uxMethod
  extract_lets areaM
  split <;> first
    | rfl
    | -- id 20, the Exodus encoder, is the only method that looks into the store: `node_x` is taken
      -- from there, or recomputed the way its getter would from `node_lon`
      simp only [methodOK, peekOK, List.isEmpty_nil, Bool.true_and, List.all_cons, List.all_nil,
        Bool.and_true]
      rcases h2 with h | h <;> rw [h]
      · exact Bool.or_true _
      · rfl

/-- the supplied-bits `Admissible` and `wfVar · v` look at -/
def uxDeps (v : Var) : List Var :=
  ([Var.faceNode, .nodeLL, .nodeXYZ] ++ sigDeps (uxTable repaired (fun _ => false)) v).eraseDups

theorem ux_wfVar_table :
    Var.all.all (fun v => allSigs (fun f =>
      !(f .faceNode && (f .nodeLL || f .nodeXYZ))
        || wfVar (uxTable repaired (fun _ => false)) f v) (uxDeps v) (fun _ => false)) = true := by
  decide +kernel

/-- every unit of the repaired library passes the table check, whatever the source supplies
    (as long as it is `Admissible`: `h1`, `h2`) -/
theorem ux_wfVar (sig : Var → Bool) (h1 : sig .faceNode = true)
    (h2 : sig .nodeLL = true ∨ sig .nodeXYZ = true) (v : Var) :
    wfVar (uxTable repaired sig) sig v = true := by
  obtain ⟨f, hag, -, hf⟩ := exists_of_allSigs sig _ _
    (List.all_eq_true.mp ux_wfVar_table v (Var.mem_all v))
  replace hag : ∀ x ∈ [Var.faceNode, .nodeLL, .nodeXYZ] ++ sigDeps (uxTable repaired (fun _ => false)) v,
      f x = sig x := fun x hx => hag x (List.mem_eraseDups.mpr hx)
  rw [uxTable_sig_indep repaired sig (fun _ => false),
    wfVar_congr (fun x hx => (hag x (List.mem_append_right _ hx)).symm)]
  rw [hag .faceNode (by simp), hag .nodeLL (by simp), hag .nodeXYZ (by simp), h1] at hf
  rcases h2 with h | h <;> simpa [h] using hf

/-- **The transcription of the repaired library is well-formed for every admissible source.** -/
theorem ux_mwf (sig : List Var) (h : Admissible sig) : MWF (uxModel repaired) (sigOf sig) :=
  have hwf : wfB (uxTable repaired (sigOf sig)) (sigOf sig) = true :=
    List.all_eq_true.mpr fun v _ => ux_wfVar _ h.1 h.2 v
  ⟨wf_of_wfB hwf, ux_fuel _, ux_meth _ h.2, ux_pol, fun c => by cases c <;> rfl, rfl⟩

/-- **History independence of the repaired library** (all the pieces together): start with no grid
    at all, open any admissible sources and run any operations in any order (`h`), then any further
    history (`h'`): a value operation on any grid returns what a freshly opened copy of that grid's
    source returns, and the module globals are pristine. -/
theorem ux_history_independent (h h' : List Ev)
    (hadm : ∀ sig, Ev.open_ sig ∈ h ++ h' → Admissible sig) (i : Nat) (o : Op) (g : Grid)
    (hg : ((World.mk [] {}).run (uxModel repaired) h).grids[i]? = some g)
    (ho : o.isValue = true) :
    (((World.mk [] {}).run (uxModel repaired) h).run (uxModel repaired) h').res (uxModel repaired) i o
        = refRes (uxModel repaired) g.sig g.sid o ∧
    (((World.mk [] {}).run (uxModel repaired) h).run (uxModel repaired) h').gl = {} := by
  have h0 : WorldInv (uxModel repaired) (World.mk [] {}) := ⟨rfl, by intro g hg; simp at hg⟩
  have hr : Readonly (uxModel repaired) h :=
    fun sig hs => ux_mwf sig (hadm sig (List.mem_append_left _ hs))
  have hr' : Readonly (uxModel repaired) h' :=
    fun sig hs => ux_mwf sig (hadm sig (List.mem_append_right _ hs))
  have h1 := run_inv h h0 hr
  have W := world_history_independent h' i o h1 hr' hg ho
  exact ⟨W.1.trans W.2, (run_inv h' h1 hr').1⟩

/-! ## the Spec the driver evaluates -/

/-- the property on an observed trace, stated outright -/
def StepSpec {α : Type} : Step α → Prop
  | .value o r => o = r
  | .super o r d => (∀ p ∈ r, p ∈ o) ∧ (∀ p ∈ o, p ∈ r ∨ p ∈ d)
  | .globals b a i => b = a ∧ a = i

theorem stepOK_iff {α : Type} [DecidableEq α] (s : Step α) : stepOK s = true ↔ StepSpec s := by
  cases s with
  | value o r => simp [stepOK, StepSpec]
  | super o r d => simp [stepOK, StepSpec, List.all_eq_true]
  | globals b a i => simp [stepOK, StepSpec]

theorem traceOK_iff {α : Type} [DecidableEq α] (t : List (Step α)) :
    traceOK t = true ↔ ∀ s ∈ t, StepSpec s := by
  simp only [traceOK, List.all_eq_true]
  constructor
  · intro h s hs; exact (stepOK_iff s).mp (h s hs)
  · intro h s hs; exact (stepOK_iff s).mpr (h s hs)

example : traceOK [Step.value 3 3, .super [(1, 5), (2, 7)] [(1, 5)] [(2, 7)], .globals 9 9 9] = true := by decide
example : traceOK [Step.value 3 4] = false := by decide
example : traceOK [Step.super [(1, 5), (2, 8)] [(1, 5)] [(2, 7)]] = false := by decide  -- extra ≠ fresh derived
example : traceOK [Step.super [(2, 7)] [(1, 5)] [(2, 7)]] = false := by decide          -- fresh entry missing
example : traceOK [Step.globals 9 8 9] = false := by decide

/-! ## non-vacuity, and the defects of the snapshot -/

-- plain explicit topology; topology with supplied edges; an MPAS-like source
def sPlain : List Var := [.nodeLL, .faceNode]
def sEdges : List Var := [.nodeLL, .faceNode, .edgeNode]
def sMpas : List Var :=
  [.nodeLL, .nodeXYZ, .faceLL, .faceXYZ, .edgeLL, .edgeXYZ, .faceNode, .edgeNode, .faceEdge,
   .edgeFace, .faceFace, .nodeFace, .nPer, .areas, .enDist, .efDist]

example : Admissible sPlain ∧ Admissible sEdges ∧ Admissible sMpas := by decide
example : ¬ Admissible [.nodeLL] := by decide

def treeFacesSph : Op := .cached .ball [1, 0, 0] false true
def treeNodesSph : Op := .cached .ball [0, 0, 0] false true
def lineRobinson : Op := .cached .line [0, 1, 0] false true
def linePlain : Op := .cached .line [0, 0, 0] false true

/-- a three-grid history touching every family of state -/
def hDemo : List Ev :=
  [.open_ sPlain, .open_ sEdges, .on 0 (.get .faceFace), .on 1 (.get .faceEdge), .on 0 .chunk,
   .open_ sMpas, .on 0 (.method 5), .on 2 (.get .jac), .on 0 treeFacesSph, .on 0 treeNodesSph,
   .on 1 lineRobinson, .on 1 linePlain, .on 0 (.get .bounds), .on 1 (.get .edgeLL), .on 0 .export_]

/-- the repaired model on the demo history: every later observation equals the fresh one … -/
example :
    [Op.get .edgeNode, .get .faceEdge, .get .jac, .method 0, .method 15, treeNodesSph, linePlain,
     .get .efDist].all (fun o => [0, 1, 2].all (fun i =>
      match ((World.mk [] {}).run (uxModel repaired) hDemo).grids[i]? with
      | some g => ((World.mk [] {}).run (uxModel repaired) hDemo).res (uxModel repaired) i o
                    == refRes (uxModel repaired) g.sig g.sid o
      | none => false)) = true := by decide +kernel
/-- … results are genuinely different terms for different requests (the equalities above are not
    between constants) -/
example : refRes (uxModel repaired) sPlain 0 treeNodesSph ≠ refRes (uxModel repaired) sPlain 0 treeFacesSph
    ∧ refRes (uxModel repaired) sPlain 0 (.get .faceEdge) ≠ refRes (uxModel repaired) sEdges 0 (.get .faceEdge)
    ∧ refRes (uxModel repaired) sPlain 0 (.get .faceEdge) ≠ refRes (uxModel repaired) sPlain 1 (.get .faceEdge) := by
  decide +kernel
/-- the export grows with the history and stays a superset of the fresh export -/
example :
    (match ((World.mk [] {}).run (uxModel repaired) hDemo).res (uxModel repaired) 0 .export_,
           refRes (uxModel repaired) sPlain 0 .export_ with
     | .vars l, .vars p => p.all (fun x => l.contains x) && decide (p.length < l.length)
     | _, _ => false) = true := by decide +kernel

/-- (`leak`, fix 63c5820e) `_populate_edge_node_connectivity` stores its side tables in the module-level
    `EDGE_NODE_CONNECTIVITY_ATTRS`: the globals change … -/
theorem asis_globals_change :
    ((World.mk [] {}).run (uxModel { leak := true }) [.open_ sPlain, .on 0 (.get .edgeNode)]).gl ≠ {} := by
  decide +kernel

/-- … and a grid opened AFTERWARDS with a supplied `edge_node_connectivity` inherits them: its
    `face_edge_connectivity` is built from the other grid's table -/
theorem asis_leak :
    ((World.mk [] {}).run (uxModel { leak := true })
        [.open_ sPlain, .on 0 (.get .edgeNode), .open_ sEdges]).res (uxModel { leak := true }) 1 (.get .faceEdge)
      ≠ refRes (uxModel { leak := true }) sEdges 1 (.get .faceEdge) := by
  decide +kernel

/-- (`replace`, fix 54ba6780) a supplied `edge_node_connectivity` is replaced the first time `face_edge_connectivity`
    is read -/
theorem asis_replace :
    ((World.mk [] {}).run (uxModel { replace := true })
        [.open_ sEdges, .on 0 (.get .faceEdge)]).res (uxModel { replace := true }) 0 (.get .edgeNode)
      ≠ refRes (uxModel { replace := true }) sEdges 0 (.get .edgeNode) := by
  decide +kernel

/-- (`numpyAreas`, fix c41a0bb5) after `Grid.chunk()` `compute_face_areas` fails -/
theorem asis_chunk_areas :
    ((World.mk [] {}).run (uxModel { numpyAreas := true })
        [.open_ sPlain, .on 0 .chunk]).res (uxModel { numpyAreas := true }) 0 (.method 0) = .err 1
    ∧ refRes (uxModel { numpyAreas := true }) sPlain 0 (.method 0) ≠ .err 1 := by
  decide +kernel

/-- (`jacWrite`, fix d718d8a1) `compute_face_areas(rule, order)` leaves ITS jacobian behind: `face_jacobian` afterwards is
    not the fresh grid's -/
theorem asis_jacobian :
    ((World.mk [] {}).run (uxModel { jacWrite := true })
        [.open_ sPlain, .on 0 (.method 5)]).res (uxModel { jacWrite := true }) 0 (.get .jac)
      ≠ refRes (uxModel { jacWrite := true }) sPlain 0 (.get .jac) := by
  decide +kernel

/-- (`treeKey`; property C11, since repaired) tree getters comparing `coordinates` only hand back the tree of the
    previous request's coordinate system -/
theorem asis_tree_key :
    ((World.mk [] {}).run (uxModel { treeKey := true })
        [.open_ sPlain, .on 0 (.cached .ball [0, 0, 0] false true)]).res (uxModel { treeKey := true }) 0
          (.cached .ball [0, 1, 1] false true)
      ≠ refRes (uxModel { treeKey := true }) sPlain 0 (.cached .ball [0, 1, 1] false true) := by
  decide +kernel

/-- **Incomplete supplied edge table** (`incompleteEdges`; a source whose `edge_node_connectivity` does not list every
    edge of its faces; /repo 2e3b10c9): the first read of `face_edge_connectivity` discards the table,
    drops every variable along `n_edge` and re-derives — `edge_node_connectivity` (and supplied edge
    coordinates) afterwards are not what a fresh copy of that source reports.  Known finding
    `C08/history/source:incomplete-supplied-edge-table/differs-from-fresh` (known_findings.d/C08.json); the table of this source class does not pass
    `wfB` (a forced write with removals), so none of the theorems above is claimed for it. -/
theorem incomplete_edges_rederived :
    ((World.mk [] {}).run (uxModel { incompleteEdges := true })
        [.open_ sEdges, .on 0 (.get .faceEdge)]).res (uxModel { incompleteEdges := true }) 0 (.get .edgeNode)
      ≠ refRes (uxModel { incompleteEdges := true }) sEdges 0 (.get .edgeNode)
    ∧ ((World.mk [] {}).run (uxModel { incompleteEdges := true })
        [.open_ (.edgeLL :: sEdges), .on 0 (.get .faceEdge)]).res (uxModel { incompleteEdges := true }) 0 (.get .edgeLL)
      ≠ refRes (uxModel { incompleteEdges := true }) (.edgeLL :: sEdges) 0 (.get .edgeLL)
    ∧ wfB (uxTable { incompleteEdges := true } (sigOf sEdges)) (sigOf sEdges) = false := by
  decide +kernel

/-- … while a source without a supplied edge table is untouched by that branch -/
example :
    ((World.mk [] {}).run (uxModel { incompleteEdges := true })
        [.open_ sPlain, .on 0 (.get .faceEdge)]).res (uxModel { incompleteEdges := true }) 0 (.get .edgeNode)
      = refRes (uxModel { incompleteEdges := true }) sPlain 0 (.get .edgeNode) := by
  decide +kernel

/-- (`staleCount`; seeded change C08e, seeded/C08e) the tree wrappers keep one slot per `coordinates` kind; if the bookkeeping that
    travels with the wrapper (`_n_elements`: which `k` a query accepts) is refreshed only when a slot
    is BUILT, the history nodes → face centers → nodes hands back the node tree with the face count:
    what it accepts / rejects differs from a fresh grid's -/
theorem asis_stale_count :
    ((World.mk [] {}).run (uxModel { staleCount := true })
        [.open_ sPlain, .on 0 treeNodesSph, .on 0 treeFacesSph]).res (uxModel { staleCount := true }) 0 treeNodesSph
      ≠ refRes (uxModel { staleCount := true }) sPlain 0 treeNodesSph := by
  decide +kernel

/-- the repaired wrapper on the same revisit history (and A→B→C→A): slot reused, bookkeeping fresh -/
example :
    ((World.mk [] {}).run (uxModel repaired)
        [.open_ sPlain, .on 0 treeNodesSph, .on 0 treeFacesSph, .on 0 (.cached .ball [2, 0, 0] false true)]).res
          (uxModel repaired) 0 treeNodesSph
      = refRes (uxModel repaired) sPlain 0 treeNodesSph := by
  decide +kernel

/-- (`lineKey`; property C15) `to_linecollection` never records the projection: a projected collection answers the
    next unprojected request -/
theorem asis_line_key :
    ((World.mk [] {}).run (uxModel { lineKey := true })
        [.open_ sPlain, .on 0 lineRobinson]).res (uxModel { lineKey := true }) 0 linePlain
      ≠ refRes (uxModel { lineKey := true }) sPlain 0 linePlain := by
  decide +kernel

/-- (`rawNodeLon`; property C04, since repaired) derived `node_lon` stayed in [0, 360) until some other getter wrapped
    every longitude in place: `node_lon` after `edge_lon` differs from a fresh `node_lon` -/
theorem asis_raw_node_lon :
    ((World.mk [] {}).run (uxModel { rawNodeLon := true })
        [.open_ [.nodeXYZ, .faceNode], .on 0 (.get .nodeLL), .on 0 (.get .edgeLL)]).res
          (uxModel { rawNodeLon := true }) 0 (.get .nodeLL)
      ≠ refRes (uxModel { rawNodeLon := true }) [.nodeXYZ, .faceNode] 0 (.get .nodeLL) := by
  decide +kernel

/-- the as-is tables fail the table check (the other switches leave the table alone and break
    `MWF.meth`, `MWF.pol` or `MWF.fresh_guard`) -/
theorem asis_not_wf :
    wfB (uxTable { leak := true } (sigOf sPlain)) (sigOf sPlain) = false
    ∧ wfB (uxTable { replace := true } (sigOf sEdges)) (sigOf sEdges) = false
    ∧ wfB (uxTable { rawNodeLon := true } (sigOf [.nodeXYZ, .faceNode])) (sigOf [.nodeXYZ, .faceNode]) = false := by
  decide +kernel

/-! ## the population table REGENERATED from the source (`Gen/GridWrites.lean`, harness/translate_c08.py)

  `ast` over `uxarray/grid/*.py` yields, for every lazily populated `Grid` attribute, the `_ds` keys /
  private attributes its getter (and everything the getter hands the grid to) WRITES — each with a
  provenance number —, the getters it READS, its longitude-wrap calls, and every write to a
  module-level container / in-place `.data` rewrite / unmodelled key.  The theorems below are
  re-checked against whatever the source says today; they tie the table the history-independence
  theorems are about (`uxUnit repaired`, proved well-formed for every source by `ux_wfVar`) to the
  source text instead of to a hand transcription. -/

section Regenerated
open UxVerif.Gen

def lookupNat {β : Type} (l : List (Nat × β)) (k : Nat) : Option β := (l.find? (fun p => p.1 == k)).map Prod.snd

def subsetV (a b : List Var) : Bool := a.all (fun x => b.contains x)
def setEqV (a b : List Var) : Bool := subsetV a b && subsetV b a

-- regenerated: groups read through getters / groups written / provenances of the writes to `k`
def gReads (R : List (Nat × List Nat)) (v : Var) : List Var := ((lookupNat R v.code).getD []).map Var.decode
def gWriteKeys (W : List (Nat × List (Nat × Nat))) (v : Var) : List Var :=
  (((lookupNat W v.code).getD []).map (fun p => Var.decode p.1)).eraseDups
def gProvs (W : List (Nat × List (Nat × Nat))) (v k : Var) : List Nat :=
  (((lookupNat W v.code).getD []).filter (fun p => p.1 == k.code)).map Prod.snd

def mReads (v : Var) : List Var := (uxUnit repaired (fun _ => false) v).reads
def mWrites (v : Var) : List Var := ((uxUnit repaired (fun _ => false) v).writes.map (fun w => w.var)).eraseDups

/-- the model's unit of `v` is the regenerated one: it stores what the source stores for `v`'s own
    variables, and it reads exactly what the source reads OR populates inline on the way (a populate
    function called directly — `face_edge_connectivity` → `_populate_edge_node_connectivity`,
    `face_areas` → the jacobian cell — is transcribed as a read of that variable's getter) -/
def unitsMatch (R : List (Nat × List Nat)) (W : List (Nat × List (Nat × Nat))) : Bool :=
  Var.all.all (fun v =>
    setEqV (mReads v) ((gReads R v ++ gWriteKeys W v).filter (fun x => !(mWrites v).contains x && x != v))
    && subsetV (mWrites v) (gWriteKeys W v))

/-- two getters never store different things under one key: whenever two variable groups' getters
    both write `k`, they write it from the same statements (same provenances) -/
def sameMeaning (W : List (Nat × List (Nat × Nat))) : Bool :=
  Var.all.all (fun v => Var.all.all (fun w => Var.all.all (fun k =>
    (gProvs W v k).isEmpty || (gProvs W w k).isEmpty ||
      ((gProvs W v k).all (fun p => (gProvs W w k).contains p) &&
       (gProvs W w k).all (fun p => (gProvs W v k).contains p)))))

/-- `sameMeaning` with the loop over the key before the loop over the second group, which is entered
    only for the keys the first group writes (the same test, a fraction of the evaluation) -/
def sameMeaningByKey (W : List (Nat × List (Nat × Nat))) : Bool :=
  Var.all.all (fun v => Var.all.all (fun k =>
    (gProvs W v k).isEmpty || Var.all.all (fun w => (gProvs W w k).isEmpty ||
      ((gProvs W v k).all (fun p => (gProvs W w k).contains p) &&
       (gProvs W w k).all (fun p => (gProvs W v k).contains p)))))

theorem sameMeaning_eq (W : List (Nat × List (Nat × Nat))) : sameMeaning W = sameMeaningByKey W := by
  unfold sameMeaning sameMeaningByKey
  congr 1
  funext v
  rw [all_comm]
  congr 1
  funext k
  simp only [Bool.or_assoc, all_or_left]

/-- **No unlisted write.**  No `Grid` getter (nor anything it hands the grid to) writes a `_ds` key or
    private attribute outside the modelled variables, a module-level container, or a stored
    variable's `.data`; no function of the analysed modules applies an in-place operation
    (`x op= …`, `x[…] = …`, `out=x`, `x.sort()`…) to a name that may alias a stored array (bound to
    `….values` / `.data`, passed on through `np.asarray`-like calls and through calls); every modelled
    getter exists. -/
theorem gen_no_unlisted_writes :
    GridWrites.unknownWrites = [] ∧ GridWrites.moduleWrites = [] ∧ GridWrites.inplaceWrites = []
    ∧ GridWrites.missingGetters = [] := by
  decide +kernel

/-- **The only store REMOVAL.**  The one getter that rebinds `Grid._ds` without some variables is
    `face_edge_connectivity`'s (`_ds.drop_dims(ugrid.EDGE_DIM)`, taken only when a source-supplied
    `edge_node_connectivity` does not list every edge of the faces): the model's write with
    `drops := edgeDimVars` under the source class `incompleteEdges`; for every other source class the
    model's table drops nothing (part of `wfB`, proved by `ux_wfVar`). -/
theorem gen_drops :
    GridWrites.dropDims = [(Var.code .faceEdge, ["ugrid.EDGE_DIM"])]
    ∧ (Var.all.all (fun v => (uxUnit { incompleteEdges := true } (fun _ => false) v).writes.all
          (fun w => w.drops.isEmpty || (v == .faceEdge && w.drops == edgeDimVars)))) = true
    ∧ (Var.all.all (fun v => (uxUnit repaired (fun _ => false) v).writes.all (fun w => w.drops.isEmpty))) = true := by
  decide +kernel

/-- **The model's table is the source's table** (reads and writes of every unit). -/
theorem gen_units_match : unitsMatch GridWrites.reads GridWrites.writes = true := by
  decide +kernel

/-- **Same key, same meaning** on the regenerated table. -/
theorem gen_same_meaning : sameMeaning GridWrites.writes = true := by
  rw [sameMeaning_eq]
  decide +kernel

/-- the longitude wrap: which getters call it after populating / on every call, and what it rewrites (`lonVars`) -/
theorem gen_wraps :
    GridWrites.wrapPop = (Var.all.filter (uxTable repaired (fun _ => false)).wrapPop).map Var.code
    ∧ GridWrites.wrapGet = (Var.all.filter (uxTable repaired (fun _ => false)).wrapGet).map Var.code
    ∧ GridWrites.wrapTargets = ["node_lon", "edge_lon", "face_lon"]
    ∧ GridWrites.groups.length = Var.all.length := by
  decide +kernel

/-- non-vacuity: the regenerated table has content, and the checks reject a perturbed table -/
example : gWriteKeys GridWrites.writes .faceEdge = [.edgeNode, .faceEdge]
    ∧ gReads GridWrites.reads .bounds = [.nodeLL, .nodeXYZ, .faceNode, .faceEdge]
    ∧ gWriteKeys GridWrites.writes .areas = [.areas, .jac] := by decide +kernel
/-- a getter of `bounds` that also stored `hole_edge_indices` would not match; one that stored its own
    `node_lon` (a variable it reads) is rejected by `sameMeaning` -/
example : unitsMatch GridWrites.reads ((14, [(14, 1), (17, 2)]) :: GridWrites.writes) = false
    ∧ sameMeaning ((14, [(14, 24292), (0, 2)]) :: GridWrites.writes) = false := by
  rw [sameMeaning_eq]
  decide +kernel
/-- `face_jacobian` storing something else than `face_areas` leaves in the cell would not pass -/
example : sameMeaning ((20, [(20, 999)]) :: GridWrites.writes) = false := by
  rw [sameMeaning_eq]
  decide +kernel

end Regenerated

end UxVerif.C08
