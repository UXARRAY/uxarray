/-
  C02 — Derived edges are exactly the boundary segments of the faces.

  Property theorems about the model `Edges.build` (transcription of
  `uxarray/grid/connectivity.py`) for EVERY standard-form table: any number of faces, any
  width, any padding layout, any numbering.  The specification `Edges.Spec` is the decidable
  predicate the driver evaluates on the implementation's output.  Main theorem `build_meets_spec`;
  `handshake`; `spec_unique`, `spec_sorted_unique` (with the order of `np.unique`, `edges_sorted`,
  `Spec` determines the WHOLE output, so implementation and model are compared with identical
  numbering); `*_any`: three clauses hold on EVERY table, `asis_*`: the other two need the standard
  form; simple faces (`edge_faces_distinct`); a source-supplied edge table is kept
  (`buildGiven_kept`, `given_meets_spec`, `spec_given_unique`).
-/
import UxVerif.Lemmas.SortUniq
import UxVerif.Lemmas.Rows
import UxVerif.Lemmas.Handshake
import UxVerif.Lemmas.C02Simple
import UxVerif.Lemmas.Incidence
import UxVerif.Lemmas.Pipeline

namespace UxVerif.C02
open UxVerif UxVerif.Edges

theorem mem_uniqAll (t : Table) (p : Int × Int) :
    p ∈ uniqAll t ↔ ∃ r ∈ t, p ∈ rowPairs r := by
  unfold uniqAll allPairs
  rw [mem_uniqPair, List.mem_flatMap]

theorem mem_edges (t : Table) (p : Int × Int) :
    p ∈ edges t ↔ (∃ r ∈ t, p ∈ rowPairs r) ∧ hasFill p = false := by
  unfold edges
  rw [List.mem_filter, mem_uniqAll]; simp

/-! ### the ORDER of the derived edges (`np.unique(axis=0)` = sort + dedup) -/

/-- `edge_nodes_unique` before the fill rows are dropped is strictly increasing in the
    lexicographic order of rows: this is the part of `np.unique(axis=0)` the model carries. -/
theorem uniqAll_sorted (t : Table) : SortedBy pairLt (uniqAll t) :=
  sorted_sortUniqBy pairLt_strictTotal _

/-- **the model lists the edges in the lexicographic order of their sorted pairs** (any table) -/
theorem edges_sorted (t : Table) : SortedBy pairLt (edges t) :=
  sortedBy_filter _ (uniqAll_sorted t)

/-- index form: a smaller edge number is a lexicographically smaller pair -/
theorem edges_strictly_increasing (t : Table) (i j : Nat) (hij : i < j)
    (hj : j < (edges t).length) :
    pairLt ((edges t)[i]'(Nat.lt_trans hij hj)) (edges t)[j] = true :=
  sortedBy_getElem (edges_sorted t) i j hij hj

/-- `np.unique`'s contract (the sorted unique rows) determines the model's result: any strictly
    increasing list with the same members as the input is `uniqPair` of it -/
theorem uniqPair_eq_of_sorted (l u : List (Int × Int)) (hs : SortedBy pairLt u)
    (hm : ∀ a, a ∈ u ↔ a ∈ l) : u = uniqPair l :=
  sortedBy_ext pairLt_strictTotal hs (sorted_sortUniqBy pairLt_strictTotal l)
    (fun a => by rw [hm a, mem_uniqPair])

example : uniqPair [(1, 2), (0, 5), (1, 2), (0, 1)] = [(0, 1), (0, 5), (1, 2)] := by decide +kernel

theorem edges_nodup (t : Table) : (edges t).Nodup :=
  nodup_of_sorted pairLt_strictTotal _ (edges_sorted t)

/-! ### three clauses of `Spec` hold on EVERY table.
    The real builders validate nothing (no exception on padding in the middle of a row, on an empty
    row, on indices out of range): the model is total in the same way, and the harness compares
    it with the code entry for entry on a malformed-input stream.  Three of the five clauses of
    `Spec` survive on EVERY table; the other two need the standard form (counterexamples below). -/

theorem sortPair_edge (t : Table) {e : Int × Int} (he : e ∈ edges t) : sortPair e = e := by
  obtain ⟨⟨r, _, hp⟩, _⟩ := (mem_edges t e).mp he
  unfold rowPairs at hp
  obtain ⟨q, _, rfl⟩ := List.mem_map.mp hp
  exact sortPair_idem q

theorem edges_map_sortPair (t : Table) : (edges t).map sortPair = edges t :=
  (List.map_congr_left fun _ he => sortPair_edge t he).trans (List.map_id _)

theorem seg_is_edge_any (t : Table) (r : List Int) (hr : r ∈ t) (s : Int × Int)
    (hs : s ∈ rowSegs r) : s ∈ edges t := by
  obtain ⟨tl, htl⟩ := rowPairs_any r
  exact (mem_edges t s).mpr ⟨⟨r, hr, htl ▸ List.mem_append_left _ hs⟩, rowSegs_noFill r s hs⟩

theorem nPerFace_ok_any (t : Table) : NPerFaceOK t (nNodesPerFace t) :=
  List.map_congr_left (fun r _ => nNodesRow_any r)

/-- **every boundary segment of every face is listed, for EVERY table** -/
theorem edges_complete_any (t : Table) : EdgesComplete t (edges t) := by
  intro r hr s hs
  rw [edges_map_sortPair]
  exact seg_is_edge_any t r hr s hs

/-- **… exactly once, and never with padding, for EVERY table** -/
theorem edges_once_any (t : Table) : EdgesOnce (edges t) := by
  unfold EdgesOnce
  rw [edges_map_sortPair]
  exact edges_nodup t

theorem edges_noFill_any (t : Table) : ∀ e ∈ edges t, e.1 ≠ FILL ∧ e.2 ≠ FILL := by
  intro e he
  have := ((mem_edges t e).mp he).2
  unfold hasFill at this
  simpa using this

/-- the standard form IS needed for the remaining two clauses: with padding in the middle of a
    row the builders (code and model alike, the harness shows identical tables) invent the edge
    (0,1) between the closing corner and what follows the padding … -/
theorem asis_midfill_unsound :
    ¬ EdgesSound [[0, FILL, 1, 2]] (build [[0, FILL, 1, 2]]).edges := by decide +kernel
/-- … and on a row whose padding starts the row the face-edge row points at an edge although
    the face has no corner -/
theorem asis_leadfill_faceEdges :
    ¬ FaceEdgesOK [[FILL, 0, 1]] 3 (build [[FILL, 0, 1]]).edges (build [[FILL, 0, 1]]).faceEdges := by
  decide +kernel

example : build [[0, FILL, 1, 2]] = ⟨[(0, 0), (0, 1), (1, 2)], [[0, 1, 2, FILL]], [1]⟩ := by decide +kernel
example : ¬ StdForm 3 4 [[0, FILL, 1, 2]] := by decide +kernel

/-! ### standard-form tables -/

/-- an edge of a standard-form table is a boundary segment of one of its rows -/
theorem edge_is_seg {n w : Nat} {t : Table} (h : StdForm n w t) (e : Int × Int)
    (he : e ∈ edges t) : ∃ r ∈ t, e ∈ rowSegs r := by
  obtain ⟨⟨r, hr, hp⟩, hnf⟩ := (mem_edges t e).mp he
  obtain ⟨tl, htl, hfill, _⟩ := rowPairs_std (h r hr)
  rw [htl, List.mem_append] at hp
  rcases hp with hp | hp
  · exact ⟨r, hr, hp⟩
  · rw [hfill e hp] at hnf; cases hnf

theorem seg_is_edge {n w : Nat} {t : Table} (_ : StdForm n w t) (r : List Int) (hr : r ∈ t)
    (s : Int × Int) (hs : s ∈ rowSegs r) : s ∈ edges t :=
  seg_is_edge_any t r hr s hs

/-- **no padding, and every listed edge is a boundary segment of a face** -/
theorem edges_sound {n w : Nat} {t : Table} (h : StdForm n w t) : EdgesSound t (edges t) := by
  intro e he
  obtain ⟨r, hr, hs⟩ := edge_is_seg h e he
  obtain ⟨h1, h2⟩ := edges_noFill_any t e he
  exact ⟨h1, h2, r, hr, by rw [sortPair_edge t he]; exact hs⟩

/-- **every boundary segment of every face is listed** -/
theorem edges_complete {n w : Nat} {t : Table} (h : StdForm n w t) :
    EdgesComplete t (edges t) := edges_complete_any t

/-- **… exactly once** -/
theorem edges_once {n w : Nat} {t : Table} (_ : StdForm n w t) : EdgesOnce (edges t) :=
  edges_once_any t

/-- renumbering a kept pair yields its position in `edges` -/
theorem renum_good (t : Table) (p : Int × Int) (hp : p ∈ uniqAll t) (hg : hasFill p = false) :
    ∃ k : Nat, renum (uniqAll t) ((uniqAll t).idxOf p) = Int.ofNat k ∧ (edges t)[k]? = some p := by
  have hi : (uniqAll t).idxOf p < (uniqAll t).length := List.idxOf_lt_length_iff.mpr hp
  refine ⟨(uniqAll t).idxOf p - (((uniqAll t).take ((uniqAll t).idxOf p + 1)).filter hasFill).length,
    ?_, filter_index hasFill (uniqAll t) p hp hg⟩
  unfold renum
  rw [List.getElem?_eq_getElem hi]
  simp [List.getElem_idxOf, hg]

theorem renum_bad (t : Table) (p : Int × Int) (hp : p ∈ uniqAll t) (hb : hasFill p = true) :
    renum (uniqAll t) ((uniqAll t).idxOf p) = FILL := by
  have hi : (uniqAll t).idxOf p < (uniqAll t).length := List.idxOf_lt_length_iff.mpr hp
  unfold renum
  rw [List.getElem?_eq_getElem hi]
  simp [List.getElem_idxOf, hb]

/-- **`face_edge_connectivity[f, j]` is the edge joining corners `j` and `j+1` of face `f`,
    and is padding exactly where `f` has no corner** -/
theorem faceEdges_ok {n w : Nat} {t : Table} (h : StdForm n w t) :
    FaceEdgesOK t w (edges t) (faceEdges t) := by
  refine FaceEdgesOK.of_rowPairs_map h (fun p => renum (uniqAll t) ((uniqAll t).idxOf p)) ?_ ?_
  · intro r hr s hs
    have hm := (mem_edges t s).mp (seg_is_edge_any t r hr s hs)
    obtain ⟨k, hk1, hk2⟩ := renum_good t s ((mem_uniqAll t s).mpr hm.1) hm.2
    exact ⟨s, by rw [hk1, getI?_ofNat, hk2], rowSegs_sorted r s hs⟩
  · intro r hr p hp hb
    exact renum_bad t p ((mem_uniqAll t p).mpr ⟨r, hr, hp⟩) hb

/-- **`n_nodes_per_face[f]` is the number of real corners of face `f`** -/
theorem nPerFace_ok {n w : Nat} {t : Table} (_ : StdForm n w t) :
    NPerFaceOK t (nNodesPerFace t) := nPerFace_ok_any t

/-- **C02 (main theorem).**  For every standard-form face-node table, of any size, width,
    padding layout and numbering, the model of the edge construction satisfies the
    specification. -/
theorem build_meets_spec {n w : Nat} {t : Table} (h : StdForm n w t) : Spec t w (build t) :=
  ⟨edges_sound h, edges_complete h, edges_once h, faceEdges_ok h, nPerFace_ok h⟩

/-- all (face, corner-slot) boundary segments of the mesh, with multiplicity -/
def allSegs (t : Table) : List (Int × Int) := t.flatMap rowSegs

theorem handshake_any (t : Table) :
    ((edges t).map (fun e => (allSegs t).count e)).sum = (nNodesPerFace t).sum := by
  have hcov : ∀ s ∈ allSegs t, s ∈ edges t := by
    intro s hs
    obtain ⟨r, hr, hsr⟩ := List.mem_flatMap.mp hs
    exact seg_is_edge_any t r hr s hsr
  rw [sum_count_cover (edges t) (allSegs t) (edges_nodup t) hcov, allSegs, List.length_flatMap]
  congr 1
  exact List.map_congr_left fun r _ => (length_rowSegs r).trans (nNodesRow_any r).symm

/-- **handshake**: summing over the derived edges the number of (face, slot) incidences of the
    edge gives the total number of corners `Σ_f n_nodes_per_face[f]` — every face slot is
    accounted for by exactly one listed edge. -/
theorem handshake {n w : Nat} {t : Table} (h : StdForm n w t) :
    ((edges t).map (fun e => (allSegs t).count e)).sum = (nNodesPerFace t).sum :=
  handshake_any t

/-- on a mesh where every edge bounds exactly two face slots (a closed surface):
    `2 · n_edge = Σ_f n_nodes_per_face[f]`. -/
theorem handshake_closed {n w : Nat} {t : Table} (h : StdForm n w t)
    (h2 : ∀ e ∈ edges t, (allSegs t).count e = 2) :
    2 * (edges t).length = (nNodesPerFace t).sum := by
  rw [← handshake h, List.map_congr_left h2]
  simp [Nat.mul_comm]

/-- **the specification determines the answer up to the numbering of the edges**: any output
    meeting `Spec` lists (as unordered pairs) a permutation of the model's edges, has the same
    corner counts, and each real slot of its face-edge table points at the same boundary segment
    as the model's.  (This is what justifies comparing implementation and model after
    canonicalising the edge numbering.) -/
theorem spec_unique {n w : Nat} {t : Table} (h : StdForm n w t) (o : Out) (hs : Spec t w o) :
    (o.edges.map sortPair).Perm (edges t) ∧ o.nPerFace = nNodesPerFace t ∧
    ∀ f, f < t.length → ∀ j, j < (faceOf (rowAt t f)).length →
      ∃ s, (rowSegs (rowAt t f))[j]? = some s ∧
        (∃ e ∈ getI? o.edges (entry (rowAt o.faceEdges f) j), sortPair e = s) ∧
        (∃ e ∈ getI? (edges t) (entry (rowAt (faceEdges t) f) j), sortPair e = s) := by
  obtain ⟨hsound, hcompl, honce, hfe, hN⟩ := hs
  refine ⟨?_, hN.trans (nPerFace_ok_any t).symm, ?_⟩
  · -- two duplicate-free lists with the same members
    apply (List.perm_ext_iff_of_nodup honce (edges_nodup t)).mpr
    intro p
    constructor
    · intro hp
      obtain ⟨e, he, rfl⟩ := List.mem_map.mp hp
      obtain ⟨_, _, r, hr, hseg⟩ := hsound e he
      exact seg_is_edge_any t r hr _ hseg
    · intro hp
      obtain ⟨r, hr, hseg⟩ := edge_is_seg h p hp
      exact hcompl r hr p hseg
  · intro f hf j hj
    have hjw : j < w := Nat.lt_of_lt_of_le hj (faceOf_le_width (h _ (rowAt_mem hf)))
    obtain ⟨e1, he1, hse1⟩ := (hfe.2 f hf).slot hj hjw
    obtain ⟨e2, he2, hse2⟩ := ((faceEdges_ok h).2 f hf).slot hj hjw
    exact ⟨_, List.getElem?_eq_getElem _, ⟨e1, he1, hse1⟩, ⟨e2, he2, hse2⟩⟩

/-! ### the padded form of any mesh is standard, so the hypothesis is satisfiable for every
    mesh whose faces have between 1 and `w` corners with indices below `n` -/

theorem stdForm_pad {n w : Nat} (m : Mesh)
    (hm : ∀ f ∈ m, 0 < f.length ∧ f.length ≤ w ∧ ∀ x ∈ f, x < n) : StdForm n w (pad w m) :=
  stdForm_pad_of_wf m hm

/-- **C02 for meshes**: whatever the faces, the edge tables built from their padded table
    meet the specification. -/
theorem build_meets_spec_mesh {n w : Nat} (m : Mesh)
    (hm : ∀ f ∈ m, 0 < f.length ∧ f.length ≤ w ∧ ∀ x ∈ f, x < n) :
    Spec (pad w m) w (build (pad w m)) :=
  build_meets_spec (stdForm_pad m hm)

/-! ### `Spec` plus the order determines the output -/

/-- **the specification plus the order determines the output completely**: an output meeting
    `Spec` whose edges are stored as sorted pairs in lexicographic order IS the model's output —
    same edge numbering, same face-edge table, entry for entry.  (So implementation and model
    are compared with identical numbering, not up to a renumbering.) -/
theorem spec_sorted_unique {n w : Nat} {t : Table} (h : StdForm n w t) (o : Out)
    (hs : Spec t w o) (hp : ∀ e ∈ o.edges, sortPair e = e) (hso : SortedBy pairLt o.edges) :
    o = build t := by
  obtain ⟨hperm, hN, _⟩ := spec_unique h o hs
  rw [(List.map_congr_left hp).trans (List.map_id _)] at hperm
  have hE : o.edges = edges t :=
    sortedBy_ext pairLt_strictTotal hso (edges_sorted t) (fun a => hperm.mem_iff)
  have hFE : o.faceEdges = faceEdges t :=
    FaceEdgesOK.unique (edges_once_any t) (hE ▸ hs.faceEdgesOK) (faceEdges_ok h)
  cases o
  simp only [build, Out.mk.injEq]
  exact ⟨hE, hFE, hN⟩

/-- the hypotheses of `spec_sorted_unique` are met by the model itself -/
theorem build_canonical {n w : Nat} {t : Table} (h : StdForm n w t) :
    (∀ e ∈ (build t).edges, sortPair e = e) ∧ SortedBy pairLt (build t).edges :=
  ⟨fun _ he => sortPair_edge t he, edges_sorted t⟩

example : SortedBy pairLt (edges [[2, 0, 1, FILL], [3, 1, 0, 2]]) := edges_sorted _
example : edges [[2, 0, 1, FILL], [3, 1, 0, 2]] = [(0, 1), (0, 2), (1, 2), (1, 3), (2, 3)] := by decide +kernel
/-- `spec_sorted_unique` is not vacuous … -/
example : Out.mk [(0, 1), (0, 2), (1, 2)] [[1, 0, 2]] [3] = build [[2, 0, 1]] :=
  spec_sorted_unique (n := 3) (w := 3) (by decide +kernel) _ (by decide +kernel) (by decide +kernel) (by decide +kernel)
/-- … and the order hypothesis is needed: the same edges numbered differently meet `Spec` -/
example : Spec [[2, 0, 1]] 3 (Out.mk [(1, 2), (0, 2), (0, 1)] [[1, 2, 0]] [3]) ∧
    Out.mk [(1, 2), (0, 2), (0, 1)] [[1, 2, 0]] [3] ≠ build [[2, 0, 1]] := by decide +kernel

/-! ### simple faces (pairwise distinct corners, at least three): each face lists each of its
    edges once, and the edge→face loop never records the same face twice for an edge -/

/-- **a simple face lists each of its edges once**: in ANY output meeting `Spec` the real entries
    of every face-edge row are pairwise distinct (the form `Incidence.edgeFace`'s loop reads). -/
theorem face_lists_each_edge_once {n w : Nat} {t : Table} (h : StdForm n w t)
    (hsimple : SimpleFaces t) (o : Out) (hs : Spec t w o) :
    ∀ f, f < o.faceEdges.length → (Incidence.faceEdgesOf o.faceEdges o.nPerFace f).Nodup := by
  intro f hf'
  have hf : f < t.length := hs.feLen ▸ hf'
  have hr := rowAt_mem hf
  rw [Pipeline.faceEdgesOf_of_spec hs hf]
  exact faceEdgeRow_nodup (faceOf_le_width (h _ hr)) (hs.feRow hf) (hsimple _ hr)

/-- the faces the loop of `_build_edge_face_connectivity` writes into the row of one edge are
    pairwise different (no manifold hypothesis: an edge may bound any number of faces) -/
theorem edge_fed_each_face_once {n w : Nat} {t : Table} (h : StdForm n w t)
    (hsimple : SimpleFaces t) (o : Out) (hs : Spec t w o) (e : Nat) :
    (Incidence.feed (Incidence.efEvents o.faceEdges o.nPerFace) e).Nodup := by
  refine (Incidence.feed_nodup_iff ?_ e).mpr fun f hf =>
    List.nodup_iff_count.mp (face_lists_each_edge_once h hsimple o hs f hf) _
  exact fun f hf y hy => (Pipeline.faceEdges_valid_of_spec h o hs f (hs.feLen ▸ hf) y hy).1

/-- **the two entries of every `edge_face_connectivity` row are different** (a face and the
    padding value, or two different faces), for the table C03's model builds from ANY edge tables
    meeting `Spec` on a standard-form table of simple faces.  (`Props/C09.lean` names this
    conclusion `DistinctFaces` of the edge-face table.) -/
theorem edge_faces_distinct {n w : Nat} {t : Table} (h : StdForm n w t)
    (hsimple : SimpleFaces t) (o : Out) (hs : Spec t w o) :
    ∀ p ∈ Incidence.edgeFace o.faceEdges o.nPerFace o.edges.length, p.1 ≠ p.2 := by
  intro p hp
  obtain ⟨e, he, rfl⟩ := Incidence.edgeFace_mem hp
  rw [Incidence.edgeFace_get _ _ _ e he]
  apply Incidence.slots_distinct _ (Pipeline.edge_is_fed_of_spec h o hs e he)
    (edge_fed_each_face_once h hsimple o hs e)
  intro x hx
  obtain ⟨f, _, _, rfl⟩ := Incidence.mem_fedFaces.mp (Incidence.feed_efEvents _ _ e ▸ hx)
  exact ofNat_ne_fill f

/-- … in particular for the edge tables the C02 model derives itself -/
theorem edge_faces_distinct_build {n w : Nat} {t : Table} (h : StdForm n w t)
    (hsimple : SimpleFaces t) :
    ∀ p ∈ Incidence.edgeFace (faceEdges t) (nNodesPerFace t) (edges t).length, p.1 ≠ p.2 :=
  edge_faces_distinct h hsimple (build t) (build_meets_spec h)

/-- the padded table of a mesh whose faces have pairwise distinct corners, at least three each,
    consists of simple faces -/
theorem simpleFaces_pad (w : Nat) (m : Mesh) (hm : ∀ f ∈ m, f.Nodup ∧ 3 ≤ f.length) :
    SimpleFaces (pad w m) := by
  intro r hr
  rcases List.mem_map.mp hr with ⟨f, hf, rfl⟩
  obtain ⟨h1, h2⟩ := hm f hf
  unfold SimpleRow
  rw [faceOf_padRow]
  refine ⟨?_, by simpa using h2⟩
  unfold List.Nodup
  rw [List.pairwise_map]
  exact List.Pairwise.imp (fun hab heq => hab (Int.ofNat.inj heq)) h1

/-- non-vacuity: two triangles and a quad around a shared edge (edge (0,1) bounds THREE faces) -/
example : StdForm 5 4 [[0, 1, 2, FILL], [1, 0, 3, FILL], [0, 1, 4, 2]] ∧
    SimpleFaces [[0, 1, 2, FILL], [1, 0, 3, FILL], [0, 1, 4, 2]] := by decide +kernel
example : ∀ p ∈ Incidence.edgeFace (faceEdges [[0, 1, 2, FILL], [1, 0, 3, FILL], [0, 1, 4, 2]])
    (nNodesPerFace [[0, 1, 2, FILL], [1, 0, 3, FILL], [0, 1, 4, 2]])
    (edges [[0, 1, 2, FILL], [1, 0, 3, FILL], [0, 1, 4, 2]]).length, p.1 ≠ p.2 :=
  edge_faces_distinct_build (n := 5) (w := 4) (by decide +kernel) (by decide +kernel)
/-- both hypotheses are needed: a face visiting a corner twice (`0 1 0 2`) walks edge (0,1) twice,
    and a two-corner face lists its only edge in both slots — `edge_face` then holds a face twice -/
example : ¬ (∀ p ∈ Incidence.edgeFace (faceEdges [[0, 1, 0, 2]]) (nNodesPerFace [[0, 1, 0, 2]])
    (edges [[0, 1, 0, 2]]).length, p.1 ≠ p.2) := by decide +kernel
example : ¬ (∀ p ∈ Incidence.edgeFace (faceEdges [[0, 1, FILL]]) (nNodesPerFace [[0, 1, FILL]])
    (edges [[0, 1, FILL]]).length, p.1 ≠ p.2) := by decide +kernel

/-! ### grids whose SOURCE supplies `edge_node_connectivity`: the table is kept and
    `face_edge_connectivity` indexes into it -/

/-- **only the unordered pairs of the supplied rows matter for the lookup** (which end node a row
    lists first is irrelevant) -/
theorem lookup_orientation_irrelevant (G G' : List (Int × Int)) (t : Table)
    (h : G.map sortPair = G'.map sortPair) : faceEdgesInto G t = faceEdgesInto G' t := by
  unfold faceEdgesInto lookupIn
  rw [h]

/-- looking a listed pair up yields a row joining exactly these two nodes -/
theorem lookupIn_get (G : List (Int × Int)) (p : Int × Int) (hp : p ∈ G.map sortPair) :
    ∃ e, getI? G (Int.ofNat (lookupIn G p)) = some e ∧ sortPair e = p := by
  have hi : lookupIn G p < (G.map sortPair).length := List.idxOf_lt_length_iff.mpr hp
  have hg : (G.map sortPair)[lookupIn G p] = p := List.getElem_idxOf hi
  rw [List.length_map] at hi
  rw [List.getElem_map] at hg
  exact ⟨_, by rw [getI?_ofNat, List.getElem?_eq_getElem hi], hg⟩

/-- **`face_edge_connectivity[f, j]` is the row of the SUPPLIED table joining corners `j`, `j+1` of
    face `f`, padding exactly where `f` has no corner** — for every supplied table that lists every
    edge of the faces (in any order, any orientation, with or without further rows) -/
theorem faceEdgesInto_ok {n w : Nat} {t : Table} (h : StdForm n w t) (G : List (Int × Int))
    (hcov : ∀ p ∈ edges t, p ∈ G.map sortPair) : FaceEdgesOK t w G (faceEdgesInto G t) := by
  refine FaceEdgesOK.of_rowPairs_map h (fun p => if hasFill p then FILL else Int.ofNat (lookupIn G p)) ?_ ?_
  · intro r hr s hs
    rw [rowSegs_noFill r s hs]
    exact lookupIn_get G s (hcov s (seg_is_edge_any t r hr s hs))
  · intro r _ p _ hb
    rw [hb]; rfl

/-- **C02 with a supplied edge table**: for every standard-form table and every supplied table
    that is the faces' edges in ANY order with ANY orientation of each row, the specification
    holds with the supplied table itself as `edge_node_connectivity`. -/
theorem given_meets_spec {n w : Nat} {t : Table} (h : StdForm n w t) (G : List (Int × Int))
    (hG : (G.map sortPair).Perm (edges t)) :
    Spec t w ⟨G, faceEdgesInto G t, nNodesPerFace t⟩ := by
  refine ⟨?_, ?_, hG.nodup_iff.mpr (edges_nodup t),
    faceEdgesInto_ok h G (fun p hp => hG.mem_iff.mpr hp), nPerFace_ok h⟩
  · intro e he
    have hmem : sortPair e ∈ edges t := hG.mem_iff.mp (List.mem_map.mpr ⟨e, he, rfl⟩)
    obtain ⟨r, hr, hs⟩ := edge_is_seg h _ hmem
    have hnf := rowSegs_noFill r _ hs
    have : e.1 ≠ FILL ∧ e.2 ≠ FILL := by
      unfold hasFill sortPair at hnf
      split at hnf <;> simp at hnf <;> simp [hnf]
    exact ⟨this.1, this.2, r, hr, hs⟩
  · intro r hr s hs
    exact hG.mem_iff.mpr (seg_is_edge h r hr s hs)

/-- a non-empty standard-form table has an edge -/
theorem edges_ne_nil {n w : Nat} {t : Table} (h : StdForm n w t) (ht : t ≠ []) : edges t ≠ [] := by
  cases t with
  | nil => exact absurd rfl ht
  | cons r t =>
    have hr : r ∈ r :: t := List.mem_cons_self
    have hl : 0 < (rowSegs r).length := by rw [length_rowSegs]; exact (h r hr).pos
    exact List.ne_nil_of_mem (seg_is_edge h r hr _ (List.getElem_mem hl))

/-- **the supplied table is kept** (same rows, same numbering, same orientation) whenever it is
    the faces' edges in some order and orientation … -/
theorem buildGiven_kept {n w : Nat} {t : Table} (h : StdForm n w t) (ht : t ≠ [])
    (G : List (Int × Int)) (hG : (G.map sortPair).Perm (edges t)) :
    buildGiven G t = ⟨G, faceEdgesInto G t, nNodesPerFace t⟩ := by
  have hne := edges_ne_nil h ht
  have hGne : G ≠ [] := by
    intro hG0; subst hG0
    exact hne (List.Perm.nil_eq hG).symm
  have hc : coversGiven G t = true := by
    unfold coversGiven
    simp only [Bool.and_eq_true, Bool.not_eq_true', List.isEmpty_eq_false_iff, List.all_eq_true,
      List.contains_iff_mem]
    exact ⟨⟨hne, hGne⟩, fun p hp => hG.mem_iff.mpr hp⟩
  unfold buildGiven
  rw [if_pos hc]

/-- … and then the grid's tables meet the specification -/
theorem buildGiven_meets_spec {n w : Nat} {t : Table} (h : StdForm n w t) (ht : t ≠ [])
    (G : List (Int × Int)) (hG : (G.map sortPair).Perm (edges t)) :
    Spec t w (buildGiven G t) ∧ (buildGiven G t).edges = G := by
  rw [buildGiven_kept h ht G hG]
  exact ⟨given_meets_spec h G hG, rfl⟩

/-- a supplied table that misses an edge of a face is replaced by the derived tables -/
theorem buildGiven_rederived {n w : Nat} {t : Table} (h : StdForm n w t) (G : List (Int × Int))
    (p : Int × Int) (hp : p ∈ edges t) (hmiss : p ∉ G.map sortPair) :
    buildGiven G t = build t ∧ Spec t w (buildGiven G t) := by
  have hc : coversGiven G t = false := by
    unfold coversGiven
    rw [Bool.and_eq_false_iff]
    right
    rw [List.all_eq_false]
    exact ⟨p, hp, fun hcon => hmiss (List.contains_iff_mem.mp hcon)⟩
  have : buildGiven G t = build t := by rw [buildGiven, hc]; exact if_neg Bool.false_ne_true
  rw [this]
  exact ⟨rfl, build_meets_spec h⟩

/-- **the edge table determines the face-edge table**: any output meeting `Spec` has
    `face_edge_connectivity = faceEdgesInto` of its own edge table (whatever its numbering and
    orientation) and the model's corner counts -/
theorem spec_given_unique {n w : Nat} {t : Table} (h : StdForm n w t) (o : Out) (hs : Spec t w o) :
    o = ⟨o.edges, faceEdgesInto o.edges t, nNodesPerFace t⟩ := by
  obtain ⟨_, hcompl, honce, ofe, hN⟩ := hs
  have hcov : ∀ p ∈ edges t, p ∈ o.edges.map sortPair := by
    intro p hp
    obtain ⟨r, hr, hseg⟩ := edge_is_seg h p hp
    exact hcompl r hr p hseg
  have hFE := FaceEdgesOK.unique honce ofe (faceEdgesInto_ok h o.edges hcov)
  have hN' : o.nPerFace = nNodesPerFace t := hN.trans (nPerFace_ok_any t).symm
  cases o
  simp only [Out.mk.injEq, true_and]
  exact ⟨hFE, hN'⟩

/-- non-vacuity: the triangle's edges listed backwards, two of them from the larger node -/
example : ((([(2, 1), (0, 2), (1, 0)] : List (Int × Int)).map sortPair).Perm (edges [[2, 0, 1]])) := by
  decide +kernel
example : buildGiven [(2, 1), (0, 2), (1, 0)] [[2, 0, 1]] = ⟨[(2, 1), (0, 2), (1, 0)], [[1, 2, 0]], [3]⟩ := by
  decide +kernel
/-- a table that misses edge (0,1) is replaced -/
example : buildGiven [(2, 1), (0, 2)] [[2, 0, 1]] = build [[2, 0, 1]] := by decide +kernel
/-- the "kept" clause is not implied by the other clauses: the re-derived tables meet `Spec` too -/
example : failingGiven [[2, 0, 1]] 3 [(2, 1), (0, 2), (1, 0)] (build [[2, 0, 1]]) = ["supplied_table_kept"] := by
  decide +kernel

/-! ### non-vacuity: concrete tables meeting the hypothesis (checked by kernel evaluation) -/

/-- one triangle -/
example : StdForm 3 3 [[0, 1, 2]] := by decide +kernel
/-- the tetrahedron meets the hypothesis of `handshake_closed` (every edge in two face slots) -/
example : ∀ e ∈ edges [[0, 1, 2], [0, 3, 1], [1, 3, 2], [2, 3, 0]],
    (allSegs [[0, 1, 2], [0, 3, 1], [1, 3, 2], [2, 3, 0]]).count e = 2 := by decide +kernel
/-- two quads sharing two edges, and a pentagon among quads with padding -/
example : StdForm 6 5 [[0, 1, 2, 3, FILL], [0, 3, 2, 4, FILL], [0, 1, 2, 4, 5]] := by decide +kernel
example : Spec [[0, 1, 2, FILL], [2, 1, 3, 4]] 4 (build [[0, 1, 2, FILL], [2, 1, 3, 4]]) :=
  build_meets_spec (n := 5) (by decide +kernel)
/-- the specification is not trivially true: dropping an edge is rejected -/
example : ¬ Spec [[0, 1, 2]] 3 (Out.mk [(0, 1), (1, 2)] [[0, 1, FILL]] [3]) := by decide +kernel

end UxVerif.C02
