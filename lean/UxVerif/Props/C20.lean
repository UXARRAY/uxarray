/-
  C20 — Grid equality distinguishes any difference in coordinates or connectivity, for ALL grids:
  any format string, unbounded lists of IEEE-754 bit patterns (NaNs, ±0, infinities included) as
  node longitudes / latitudes, connectivity tables of any shape, and any non-Grid right operand.

  `gridEq` is the REPAIRED `Grid.__eq__`: connective `and` (fixes/C20-eq-connective.patch) and
  VARIABLES compared instead of DataArrays (fixes/C20-eq-compares-variables.patch).  It meets the
  Spec without hypotheses: `gridEq_iff`, `impl_meets_spec`, `single_change_detected`, the laws
  `eq_refl`, `eq_symm`, `eq_trans`, `ne_iff_not_eq`, `copy_eq`, `non_grid_false`.  Not inputs of
  `==`: attached coordinates (`eq_ignores_coord_storage`), the numpy / dask backing
  (`backing_irrelevant`), the stored representation (`eq_ignores_stored_representation`).  Inputs:
  the 2-D shape (`reshape_detected`) and, the reader being injective (`procTable_inj`), the source
  table (`source_change_detected`).

  Proved counterexamples with the exact behaviour of the earlier versions of the code —
  `gridEqAsIs` (snapshot, `or`): `asis_violates_spec`, `asis_eq_iff`;
  `gridEqCoords` (`DataArray.equals` on all three): `coords_structure_violates_spec`,
  `gridEqCoords_iff`; `gridEqConnDA` (on the connectivity only): `conn_coords_violate_spec`,
  `gridEqConnDA_iff` — and of plausible rewrites that are not what the code does:
  `flatten_blind_wrong`, `common_subset_wrong`, `tolerant_fill_not_injective`; `…_partial`: where such a
  version agrees with the one it is measured against.
-/
import UxVerif.Model.GridEq

namespace UxVerif.C20
open UxVerif UxVerif.GridEq

/-! ## the Spec -/

/-- exponent all ones, mantissa non-zero -/
def IsNaN (b : Nat) : Prop := (b / 2 ^ 52) % 2048 = 2047 ∧ b % 2 ^ 52 ≠ 0
/-- the bit pattern is `+0.0` or `-0.0` -/
def IsZero (b : Nat) : Prop := b % 2 ^ 63 = 0

/-- two doubles are *identical as array entries* (`DataArray.equals`): both NaN, or the same
    number (same bits, or both a zero). -/
def ValSame (x y : Nat) : Prop :=
  (IsNaN x ∧ IsNaN y) ∨ (¬ IsNaN x ∧ ¬ IsNaN y ∧ (x = y ∨ (IsZero x ∧ IsZero y)))

def ArrSame {α : Type} (R : α → α → Prop) (l₁ l₂ : List α) : Prop :=
  l₁.length = l₂.length ∧ ∀ (i : Nat) (h₁ : i < l₁.length) (h₂ : i < l₂.length), R l₁[i] l₂[i]

/-- same format and identical node longitudes, node latitudes and face-node connectivity
    (identical arrays: same shape, entry-wise identical). -/
def Same (a b : Grid) : Prop :=
  a.spec = b.spec ∧ ArrSame ValSame a.lon b.lon ∧ ArrSame ValSame a.lat b.lat ∧
    a.nFace = b.nFace ∧ a.width = b.width ∧ a.conn = b.conn

theorem Same.spec {a b : Grid} (h : Same a b) : a.spec = b.spec := h.1
theorem Same.lon {a b : Grid} (h : Same a b) : ArrSame ValSame a.lon b.lon := h.2.1
theorem Same.lat {a b : Grid} (h : Same a b) : ArrSame ValSame a.lat b.lat := h.2.2.1
theorem Same.nFace {a b : Grid} (h : Same a b) : a.nFace = b.nFace := h.2.2.2.1
theorem Same.width {a b : Grid} (h : Same a b) : a.width = b.width := h.2.2.2.2.1
theorem Same.conn {a b : Grid} (h : Same a b) : a.conn = b.conn := h.2.2.2.2.2

/-- **Spec**: `a == b` is True iff the grids are the same in the above sense, and `a != b` is
    its negation. -/
def Spec (a b : Grid) (eqOut neOut : Bool) : Prop :=
  (eqOut = true ↔ Same a b) ∧ neOut = !eqOut

/-- one single change of `a` (or a change of a size / of the format).  "Different" is `valEq … = false`
    (decidable); `valEq_iff` links it to `ValSame`. -/
inductive Change (a : Grid) : Grid → Prop
  /-- one longitude replaced by a different value -/
  | lon (i v : Nat) (hi : i < a.lon.length) (hv : valEq a.lon[i] v = false) :
      Change a { a with lon := a.lon.set i v }
  /-- one latitude replaced by a different value -/
  | lat (i v : Nat) (hi : i < a.lat.length) (hv : valEq a.lat[i] v = false) :
      Change a { a with lat := a.lat.set i v }
  /-- one connectivity entry replaced by a different integer (a node index or the fill value) -/
  | conn (i : Nat) (v : Int) (hi : i < a.conn.length) (hv : a.conn[i] ≠ v) :
      Change a { a with conn := a.conn.set i v }
  /-- any grid with another number of nodes (whatever else it contains) -/
  | nNode (b : Grid) (h : b.lon.length ≠ a.lon.length ∨ b.lat.length ≠ a.lat.length) : Change a b
  /-- any grid with another number of faces -/
  | nFace (b : Grid) (h : b.nFace ≠ a.nFace) : Change a b
  /-- any grid with another connectivity width -/
  | width (b : Grid) (h : b.width ≠ a.width) : Change a b
  /-- any grid stemming from another format -/
  | format (b : Grid) (h : b.spec ≠ a.spec) : Change a b

theorem isNaN_iff (b : Nat) : isNaN b = true ↔ IsNaN b := by
  simp only [isNaN, IsNaN, expBits, manBits, Bool.and_eq_true, beq_iff_eq, bne_iff_ne]

theorem isZero_iff (b : Nat) : isZero b = true ↔ IsZero b := beq_iff_eq

theorem valEq_iff (x y : Nat) : valEq x y = true ↔ ValSame x y := by
  simp only [ValSame, ← isNaN_iff, ← isZero_iff, valEq, ieeeEq, Bool.or_eq_true, Bool.and_eq_true,
    Bool.not_eq_true', Bool.not_eq_true, beq_iff_eq, and_assoc]
  exact or_comm

theorem ValSame.refl (x : Nat) : ValSame x x := by
  by_cases h : IsNaN x
  · exact Or.inl ⟨h, h⟩
  · exact Or.inr ⟨h, h, Or.inl rfl⟩

theorem ValSame.symm {x y : Nat} (h : ValSame x y) : ValSame y x := by
  unfold ValSame at *
  grind

theorem ValSame.trans {x y z : Nat} (h1 : ValSame x y) (h2 : ValSame y z) : ValSame x z := by
  unfold ValSame at *
  grind

/-- NaN-aware equality is reflexive (plain IEEE `==` is not: `ieeeEq_nan`). -/
theorem valEq_refl (x : Nat) : valEq x x = true := (valEq_iff x x).mpr (ValSame.refl x)

theorem valEq_trans {x y z : Nat} (h1 : valEq x y = true) (h2 : valEq y z = true) :
    valEq x z = true :=
  (valEq_iff x z).mpr (((valEq_iff x y).mp h1).trans ((valEq_iff y z).mp h2))

/-- plain IEEE equality is NOT reflexive on a NaN — which is why `equals` is NaN-aware. -/
theorem ieeeEq_nan : ieeeEq 0x7FF8000000000000 0x7FF8000000000000 = false := by decide

/-! ### arrays -/

variable {α : Type}

theorem ArrSame.refl {R : α → α → Prop} (hr : ∀ x, R x x) (l : List α) : ArrSame R l l :=
  ⟨rfl, fun _ _ _ => hr _⟩

theorem ArrSame.symm {R : α → α → Prop} {l₁ l₂ : List α} (h : ArrSame R l₁ l₂)
    (hs : ∀ {x y}, R x y → R y x) : ArrSame R l₂ l₁ :=
  ⟨h.1.symm, fun i h₂ h₁ => hs (h.2 i h₁ h₂)⟩

theorem ArrSame.trans {R : α → α → Prop} {l₁ l₂ l₃ : List α} (h : ArrSame R l₁ l₂)
    (h' : ArrSame R l₂ l₃) (ht : ∀ {x y z}, R x y → R y z → R x z) : ArrSame R l₁ l₃ :=
  ⟨h.1.trans h'.1, fun i h₁ h₃ => ht (h.2 i h₁ (h.1 ▸ h₁)) (h'.2 i (h.1 ▸ h₁) h₃)⟩

theorem ArrSame.not_set {R : α → α → Prop} {l : List α} {i : Nat} {v : α} (hi : i < l.length)
    (hv : ¬ R l[i] v) : ¬ ArrSame R l (l.set i v) :=
  fun h => hv (List.getElem_set_self (l := l) (a := v) (List.length_set ▸ hi) ▸ h.2 i hi _)

theorem arrSame_eq_iff {l₁ l₂ : List α} : ArrSame Eq l₁ l₂ ↔ l₁ = l₂ :=
  ⟨fun h => List.ext_getElem h.1 h.2, fun h => h ▸ ArrSame.refl (fun _ => rfl) l₁⟩

theorem arrEq_eq_isEqv (eq : α → α → Bool) (l₁ l₂ : List α) :
    arrEq eq l₁ l₂ = l₁.isEqv l₂ eq := by
  induction l₁ generalizing l₂ with
  | nil => cases l₂ <;> rfl
  | cons x xs ih =>
    cases l₂ with
    | nil => rfl
    | cons y ys => exact congrArg (eq x y && ·) (ih ys)

theorem arrEq_true_iff (eq : α → α → Bool) (l₁ l₂ : List α) :
    arrEq eq l₁ l₂ = true ↔
      l₁.length = l₂.length ∧
        ∀ (i : Nat) (h₁ : i < l₁.length) (h₂ : i < l₂.length), eq l₁[i] l₂[i] = true := by
  rw [arrEq_eq_isEqv, List.isEqv_eq_decide]
  split
  · rw [decide_eq_true_eq]
    exact ⟨fun h => ⟨‹_›, fun i h₁ _ => h i h₁⟩, fun h i h' => h.2 i h' _⟩
  · exact ⟨fun h => Bool.noConfusion h, fun h => absurd h.1 ‹_›⟩

theorem arrEq_length {eq : α → α → Bool} {l₁ l₂ : List α} (h : arrEq eq l₁ l₂ = true) :
    (l₁.length == l₂.length) = true :=
  beq_iff_eq.mpr ((arrEq_true_iff eq l₁ l₂).mp h).1

theorem arrEq_iff_arrSame (eq : α → α → Bool) (R : α → α → Prop)
    (h : ∀ x y, eq x y = true ↔ R x y) (l₁ l₂ : List α) :
    arrEq eq l₁ l₂ = true ↔ ArrSame R l₁ l₂ := by
  simp only [arrEq_true_iff, ArrSame, h]

theorem arrEq_valEq_iff (l₁ l₂ : List Nat) :
    arrEq valEq l₁ l₂ = true ↔ ArrSame ValSame l₁ l₂ :=
  arrEq_iff_arrSame valEq ValSame valEq_iff l₁ l₂

/-- two coordinate arrays are reported different iff the lengths differ or some entry does. -/
theorem coordArr_false_iff (l₁ l₂ : List Nat) :
    arrEq valEq l₁ l₂ = false ↔
      l₁.length ≠ l₂.length ∨
        ∃ (i : Nat) (h₁ : i < l₁.length) (h₂ : i < l₂.length), valEq l₁[i] l₂[i] = false := by
  rw [← Bool.not_eq_true, arrEq_true_iff, Classical.not_and_iff_not_or_not]
  simp only [Classical.not_forall, Bool.not_eq_true, ne_eq]

theorem arrEq_intEq_iff (l₁ l₂ : List Int) : arrEq intEq l₁ l₂ = true ↔ l₁ = l₂ :=
  (arrEq_iff_arrSame intEq Eq (fun _ _ => beq_iff_eq) l₁ l₂).trans arrSame_eq_iff

theorem map_map_eq_self {β γ : Type} {f : β → γ} {g : γ → β} {l : List β}
    (h : ∀ x ∈ l, g (f x) = x) : (l.map f).map g = l := by
  rw [List.map_map]
  exact (List.map_congr_left (f := g ∘ f) (g := id) h).trans (List.map_id l)

theorem flatten_inj_width (w : Nat) (t₁ t₂ : List (List α)) (h1 : ∀ r ∈ t₁, r.length = w)
    (h2 : ∀ r ∈ t₂, r.length = w) (hl : t₁.length = t₂.length) (hf : t₁.flatten = t₂.flatten) :
    t₁ = t₂ :=
  List.eq_iff_flatten_eq.mpr
    ⟨hf, by rw [List.map_eq_replicate_iff.mpr h1, List.map_eq_replicate_iff.mpr h2, hl]⟩

/-- an early return `if c: return False` in front of `e` is a conjunction. -/
theorem guard_eq (c e : Bool) : (if c then false else e) = (!c && e) := by
  cases c <;> rfl

theorem nil_of_guard_iff {c : Prop} [Decidable c] (x : α) :
    (if c then [] else [x]) = [] ↔ c := by
  split <;> simp [*]

/-! ### `gridEq` -/

theorem connEq_iff (a b : Grid) :
    connEq a b = true ↔ a.nFace = b.nFace ∧ a.width = b.width ∧ a.conn = b.conn := by
  simp only [connEq, Bool.and_eq_true, beq_iff_eq, arrEq_intEq_iff, and_assoc]

theorem gridEq_eq (a b : Grid) :
    gridEq a b = (a.spec == b.spec && (lonEq a b && latEq a b && connEq a b)) := by
  simp only [gridEq, guard_eq, bne, Bool.not_not, Bool.and_true]

/-- **exact characterisation of `==`** (repaired): True iff same format, identical longitudes,
    latitudes and connectivity — nothing else (in particular not the way the source dataset
    stored the coordinates). -/
theorem gridEq_iff (a b : Grid) : gridEq a b = true ↔ Same a b := by
  simp only [gridEq_eq, Same, lonEq, latEq, Bool.and_eq_true, beq_iff_eq, arrEq_valEq_iff, connEq_iff,
    and_assoc]

/-- **equal ⇒ same**: whenever `a == b` is True the grids stem from the same format and have
    identical longitudes, latitudes and connectivity. -/
theorem eq_sound (a b : Grid) (h : gridEq a b = true) : Same a b := (gridEq_iff a b).mp h

/-- **same ⇒ equal**, for all pairs. -/
theorem eq_complete (a b : Grid) (h : Same a b) : gridEq a b = true := (gridEq_iff a b).mpr h

/-- **`==` reads no coordinate attached to any of the three compared variables**: whatever
    coordinates (on the node, face or width dimension, or scalar) the source datasets attached to
    `node_lon`, `node_lat` and `face_node_connectivity` on either side, the result is the same. -/
theorem eq_ignores_coord_storage (a b : Grid) (x y z x' y' z' : List Coord) :
    gridEq { a with cLon := x, cLat := y, cConn := z } { b with cLon := x', cLat := y', cConn := z' }
      = gridEq a b := rfl

/-- `Same` does not mention the attached coordinates either (the Spec is about the values). -/
theorem same_ignores_coord_storage (a b : Grid) (x y z x' y' z' : List Coord) :
    Same { a with cLon := x, cLat := y, cConn := z } { b with cLon := x', cLat := y', cConn := z' }
      ↔ Same a b := Iff.rfl

/-- every way of being unequal: the 2^4 combinations of differing fields collapse to "some
    comparison fails". -/
theorem gridEq_false_iff (a b : Grid) :
    gridEq a b = false ↔
      a.spec ≠ b.spec ∨ lonEq a b = false ∨ latEq a b = false ∨ connEq a b = false := by
  simp only [gridEq_eq, Bool.and_eq_false_iff, beq_eq_false_iff_ne, or_assoc]

/-- **refinement**: for EVERY pair of grids the outputs of `==` and `!=` satisfy the Spec. -/
theorem impl_meets_spec (a b : Grid) : Spec a b (pyEq a (.grid b)) (pyNe a (.grid b)) :=
  ⟨gridEq_iff a b, rfl⟩

-- only the attached coordinates differ (`[85]` = "U")
example : Spec ⟨[85], [0, 1], [0, 0], 1, 2, [0, 1], [], [], []⟩ ⟨[85], [0, 1], [0, 0], 1, 2, [0, 1], [⟨[1], [0, 1]⟩], [⟨[1], [0, 1]⟩], [⟨[7], [5]⟩]⟩
    true false := impl_meets_spec _ _
-- the second longitude differs
example : Spec ⟨[85], [0, 1], [0, 0], 1, 2, [0, 1], [⟨[1], [0, 1]⟩], [⟨[1], [0, 1]⟩], [⟨[7], [5]⟩]⟩ ⟨[85], [0, 2], [0, 0], 1, 2, [0, 1], [⟨[1], [0, 1]⟩], [⟨[1], [0, 1]⟩], [⟨[7], [5]⟩]⟩
    false true := impl_meets_spec _ _

/-- the Spec determines both outputs: "Spec fails on the observed output" and "observed output
    differs from the model" coincide. -/
theorem spec_unique (a b : Grid) (e n : Bool) (h : Spec a b e n) :
    e = gridEq a b ∧ n = !gridEq a b := by
  have he : e = gridEq a b := Bool.eq_iff_iff.mpr (h.1.trans (gridEq_iff a b).symm)
  exact ⟨he, he ▸ h.2⟩

/-! ### the laws -/

theorem Same.refl (a : Grid) : Same a a :=
  ⟨rfl, .refl ValSame.refl _, .refl ValSame.refl _, rfl, rfl, rfl⟩

theorem Same.symm {a b : Grid} (h : Same a b) : Same b a :=
  ⟨h.spec.symm, h.lon.symm ValSame.symm, h.lat.symm ValSame.symm, h.nFace.symm, h.width.symm,
    h.conn.symm⟩

theorem Same.trans {a b c : Grid} (h : Same a b) (h' : Same b c) : Same a c :=
  ⟨h.spec.trans h'.spec, h.lon.trans h'.lon ValSame.trans, h.lat.trans h'.lat ValSame.trans,
    h.nFace.trans h'.nFace, h.width.trans h'.width, h.conn.trans h'.conn⟩

/-- **reflexive**: every grid equals itself — also one whose coordinates contain NaN. -/
theorem eq_refl (a : Grid) : gridEq a a = true := (gridEq_iff a a).mpr (Same.refl a)

example : gridEq ⟨[85], [0x7FF8000000000000, 1], [0, 0], 1, 2, [0, FILL], [], [], []⟩
    ⟨[85], [0x7FF8000000000000, 1], [0, 0], 1, 2, [0, FILL], [], [], []⟩ = true := eq_refl _

/-- **symmetric**: `a == b` and `b == a` always agree. -/
theorem eq_symm (a b : Grid) : gridEq a b = gridEq b a := by
  rw [Bool.eq_iff_iff, gridEq_iff, gridEq_iff]
  exact ⟨Same.symm, Same.symm⟩

/-- (beyond the statement) equality is transitive, hence an equivalence relation on grids. -/
theorem eq_trans {a b c : Grid} (h1 : gridEq a b = true) (h2 : gridEq b c = true) :
    gridEq a c = true :=
  (gridEq_iff a c).mpr (((gridEq_iff a b).mp h1).trans ((gridEq_iff b c).mp h2))

/-- **`!=` is the negation of `==`**, for a Grid or any other right operand. -/
theorem ne_iff_not_eq (a : Grid) (o : Obj) : pyNe a o = true ↔ ¬ (pyEq a o = true) := by
  rw [pyNe, Bool.not_eq_true', Bool.not_eq_true]

theorem ne_eq_not (a : Grid) (o : Obj) : pyNe a o = !pyEq a o := rfl

/-- **comparison with a non-Grid is False** (and `!=` is True), whatever the object is. -/
theorem non_grid_false (a : Grid) (t : Nat) :
    pyEq a (.other t) = false ∧ pyNe a (.other t) = true := ⟨rfl, rfl⟩

/-- **a copy of a grid equals the grid**, in both operand orders. -/
theorem copy_eq (a : Grid) :
    pyEq a (.grid (copy a)) = true ∧ pyEq (copy a) (.grid a) = true ∧
      pyNe a (.grid (copy a)) = false ∧ pyNe (copy a) (.grid a) = false :=
  have h : gridEq a a = true := eq_refl a
  ⟨h, h, congrArg not h, congrArg not h⟩

example : pyEq ⟨[85], [0, 1], [0, 0], 1, 2, [0, 1], [⟨[1], [0, 1]⟩], [⟨[1], [0, 1]⟩], [⟨[7], [5]⟩]⟩
    (.grid (copy ⟨[85], [0, 1], [0, 0], 1, 2, [0, 1], [⟨[1], [0, 1]⟩], [⟨[1], [0, 1]⟩], [⟨[7], [5]⟩]⟩)) = true := (copy_eq _).1

/-! ### change detection -/

theorem not_same_of_change {a b : Grid} (h : Change a b) : ¬ Same a b := by
  rintro ⟨h1, h2, h3, h4, h5, h6⟩
  cases h with
  | lon i v hi hv => exact ArrSame.not_set hi (Bool.eq_false_iff.mp hv ∘ (valEq_iff _ _).mpr) h2
  | lat i v hi hv => exact ArrSame.not_set hi (Bool.eq_false_iff.mp hv ∘ (valEq_iff _ _).mpr) h3
  | conn i v hi hv => exact ArrSame.not_set hi hv (arrSame_eq_iff.mpr h6)
  | nNode _ h => exact h.elim (· h2.1.symm) (· h3.1.symm)
  | nFace _ h => exact h h4.symm
  | width _ h => exact h h5.symm
  | format _ h => exact h h1.symm

/-- (stronger, beyond single changes) ANY difference — in any number of entries — is detected. -/
theorem any_difference_detected (a b : Grid) (h : ¬ Same a b) : gridEq a b = false :=
  Bool.eq_false_iff.mpr (h ∘ eq_sound a b)

theorem detected_both {a b : Grid} (h : ¬ Same a b) : gridEq a b = false ∧ gridEq b a = false :=
  ⟨any_difference_detected a b h, any_difference_detected b a (h ∘ Same.symm)⟩

/-- **any single change is detected** (unconditional): replacing one longitude, one latitude or
    one connectivity entry (at any position, by any different value — another number, a NaN, the
    fill value), or changing the number of nodes or faces (or the width / the format), makes the
    grids unequal, in both operand orders, and `!=` True. -/
theorem single_change_detected {a b : Grid} (h : Change a b) :
    gridEq a b = false ∧ gridEq b a = false ∧ pyNe a (.grid b) = true ∧ pyNe b (.grid a) = true :=
  have ⟨h1, h2⟩ := detected_both (not_same_of_change h)
  ⟨h1, h2, congrArg not h1, congrArg not h2⟩

-- non-vacuity: one longitude changed by one ulp; a node replaced by the fill value; a node added
example : gridEq ⟨[85], [4607182418800017408, 0], [0, 0], 1, 2, [0, 1], [], [], []⟩
    ⟨[85], [4607182418800017409, 0], [0, 0], 1, 2, [0, 1], [], [], []⟩ = false :=
  (single_change_detected (Change.lon (a := ⟨[85], [4607182418800017408, 0], [0, 0], 1, 2, [0, 1], [], [], []⟩)
    0 4607182418800017409 (by decide) (by decide))).1
example : gridEq ⟨[85], [1, 0], [0, 0], 1, 2, [0, 1], [], [], []⟩
    ⟨[85], [1, 0], [0, 0], 1, 2, [0, FILL], [], [], []⟩ = false :=
  (single_change_detected (Change.conn (a := ⟨[85], [1, 0], [0, 0], 1, 2, [0, 1], [], [], []⟩)
    1 FILL (by decide) (by decide))).1
example : gridEq ⟨[85], [1, 0], [0, 0], 1, 2, [0, 1], [], [], []⟩
    ⟨[85], [1, 0, 5], [0, 0, 5], 1, 2, [0, 1], [], [], []⟩ = false :=
  (single_change_detected (Change.nNode _ (Or.inl (by decide)))).1

/-! ### checker -/

theorem sameB_iff (a b : Grid) : sameB a b = true ↔ Same a b := by
  simp only [sameB, Same, Bool.and_eq_true, decide_eq_true_eq, arrEq_valEq_iff, and_assoc]

/-- **`specB` decides `Spec`** — the driver's verdict on the implementation's outputs is the
    Spec's. -/
theorem specB_iff (a b : Grid) (e n : Bool) : specB a b e n = true ↔ Spec a b e n := by
  rw [Spec, ← sameB_iff, ← Bool.eq_iff_iff, specB, Bool.and_eq_true, beq_iff_eq, beq_iff_eq]

/-- the concrete counterexamples below are evaluated through the checker. -/
instance (a b : Grid) (e n : Bool) : Decidable (Spec a b e n) :=
  decidable_of_iff _ (specB_iff a b e n)

theorem failing_nil_iff (a b : Grid) (e n : Bool) : failing a b e n = [] ↔ Spec a b e n := by
  rw [← specB_iff, specB, Bool.and_eq_true, failing, List.append_eq_nil_iff, nil_of_guard_iff,
    nil_of_guard_iff]

/-! ## the version before fixes/C20-eq-compares-variables.patch: the way the coordinates are
    stored leaked into `==` — regression witness

    Same triangle, same format, identical arrays; `cA` keeps `node_lon`/`node_lat` as data
    variables, `cB` as xarray coordinates.  `DataArray.equals` compares coordinates too. -/

/-- a triangle, lon (0, 10, 20), lat (0, 0, 5) as bit patterns -/
def cA : Grid := ⟨[85], [0, 4621819117588971520, 4626322717216342016],
  [0, 0, 4617315517961601024], 1, 3, [0, 1, 2], [], [], []⟩
def nodeCoords (g : Grid) : List Coord := [⟨[1], g.lon⟩, ⟨[2], g.lat⟩]
def cB : Grid := { cA with cLon := nodeCoords cA, cLat := nodeCoords cA }

/-- what `DataArray.equals` made of `==`: also the same coordinates attached to each of the
    three variables. -/
theorem gridEqCoords_iff (a b : Grid) :
    gridEqCoords a b = true ↔ Same a b ∧ sameCoords a b = true := by
  rw [← gridEq_iff, gridEq_eq]
  simp only [gridEqCoords, guard_eq, bne, Bool.not_not, Bool.and_true]
  simp only [lonEqDA, latEqDA, connEqDA, sameCoords, lonEq, latEq, Bool.and_eq_true]
  constructor
  · rintro ⟨hs, ⟨⟨hL, c1⟩, hT, c2⟩, hC, c3⟩
    exact ⟨⟨hs, ⟨hL, hT⟩, hC⟩, ⟨c1, c2⟩, c3⟩
  · rintro ⟨⟨hs, ⟨hL, hT⟩, hC⟩, ⟨c1, c2⟩, c3⟩
    exact ⟨hs, ⟨⟨hL, c1⟩, hT, c2⟩, hC, c3⟩

/-- … so identical grids whose source datasets stored the coordinates differently compared
    unequal: the Spec was violated (and is met by the repaired `gridEq` on the same pair). -/
theorem coords_structure_violates_spec :
    ¬ Spec cA cB (gridEqCoords cA cB) (!gridEqCoords cA cB) := by
  decide +kernel

example : Spec cA cB (gridEq cA cB) (!gridEq cA cB) := impl_meets_spec cA cB
example : gridEq cA cB = true := by decide +kernel

/-- the `DataArray.equals` version was right on pairs carrying the same coordinates. -/
theorem coords_partial (a b : Grid) (hc : sameCoords a b = true) :
    gridEqCoords a b = gridEq a b := by
  rw [Bool.eq_iff_iff, gridEqCoords_iff, gridEq_iff]
  exact ⟨fun h => h.1, fun h => ⟨h, hc⟩⟩

/-- it never called different grids equal. -/
theorem coords_sound (a b : Grid) (h : gridEqCoords a b = true) : gridEq a b = true :=
  (gridEq_iff a b).mpr ((gridEqCoords_iff a b).mp h).1

/-! ### partial regression: only the connectivity compared as a DataArray

    `fB` is `cA` read from a dataset in which `face_lon` (one face, at 10.0) is an xarray coordinate
    (it lives on `n_face`, so `face_node_connectivity` carries it); `fC` has an index coordinate on `n_face`,
    `fD` a scalar coordinate.  Values of lon / lat / connectivity are identical throughout. -/

def fB : Grid := { cA with cConn := [⟨[3], [4621819117588971520]⟩] }
def fC : Grid := { cA with cConn := [⟨[4], [0]⟩] }
def fD : Grid := { cA with cLon := [⟨[5], [0]⟩], cLat := [⟨[5], [0]⟩], cConn := [⟨[5], [0]⟩] }

theorem gridEqConnDA_iff (a b : Grid) :
    gridEqConnDA a b = true ↔ Same a b ∧ coordsEq a.cConn b.cConn = true := by
  rw [← gridEq_iff, gridEq_eq]
  simp only [gridEqConnDA, guard_eq, bne, Bool.not_not, connEqDA, Bool.and_eq_true, and_assoc]

/-- comparing the connectivity as a DataArray violates the Spec on identical grids that differ
    only in a face-dimension coordinate, an index coordinate or a scalar coordinate of the source
    dataset — while the node-coordinate witness `cA`/`cB` no longer shows it. -/
theorem conn_coords_violate_spec :
    ¬ Spec cA fB (gridEqConnDA cA fB) (!gridEqConnDA cA fB) ∧
    ¬ Spec cA fC (gridEqConnDA cA fC) (!gridEqConnDA cA fC) ∧
    ¬ Spec cA fD (gridEqConnDA cA fD) (!gridEqConnDA cA fD) ∧
    gridEqConnDA cA cB = true := by
  decide +kernel

example : gridEq cA fB = true ∧ gridEq fC cA = true ∧ gridEq fD fB = true := by decide +kernel

/-- right on pairs with the same coordinates attached to the connectivity. -/
theorem connDA_partial (a b : Grid) (hc : coordsEq a.cConn b.cConn = true) :
    gridEqConnDA a b = gridEq a b := by
  rw [Bool.eq_iff_iff, gridEqConnDA_iff, gridEq_iff]
  exact ⟨fun h => h.1, fun h => ⟨h, hc⟩⟩

/-! ## the snapshot's connective (`or`) — regression witness

    In `wB` the longitude of node 1 of the triangle `cA` is 11.0 (`4622382067542392832`) instead of
    10.0.  The harness replays exactly this pair on the implementation (corpus/C20/asis-lon.json). -/

def wA : Grid := cA
def wB : Grid := { wA with lon := wA.lon.set 1 4622382067542392832 }

/-- what `or` computes: it forgets one of the two coordinate comparisons. -/
theorem asis_eq_iff (a b : Grid) :
    gridEqAsIs a b = true ↔
      a.spec = b.spec ∧ (lonEqDA a b = true ∨ latEqDA a b = true) ∧ connEqDA a b = true := by
  simp only [gridEqAsIs, guard_eq, bne, Bool.not_not, Bool.and_true, Bool.and_eq_true,
    Bool.or_eq_true, beq_iff_eq]

/-- with `or`, a single changed longitude goes unnoticed … -/
theorem asis_single_change_undetected :
    ∃ (a : Grid) (i v : Nat) (hi : i < a.lon.length),
      valEq a.lon[i] v = false ∧ gridEqAsIs a { a with lon := a.lon.set i v } = true :=
  ⟨wA, 1, 4622382067542392832, by decide, by decide +kernel⟩

/-- … so the as-is algorithm violates the Spec (while the repaired one meets it on the same pair). -/
theorem asis_violates_spec : ¬ Spec wA wB (gridEqAsIs wA wB) (!gridEqAsIs wA wB) := by
  decide +kernel

example : Spec wA wB (gridEq wA wB) (!gridEq wA wB) := impl_meets_spec wA wB

/-- the snapshot's algorithm agrees with the `and` version where the two coordinate comparisons agree
    (the only pairs the test-suite compares). -/
theorem asis_partial (a b : Grid) (h : lonEqDA a b = latEqDA a b) :
    gridEqAsIs a b = gridEqCoords a b := by
  rw [gridEqAsIs, gridEqCoords, h, Bool.or_self, Bool.and_self]

theorem coordsEq_nodeCoords (a b : Grid) :
    coordsEq (nodeCoords a) (nodeCoords b) = (arrEq valEq a.lon b.lon && arrEq valEq a.lat b.lat) := by
  rw [← Bool.and_true (arrEq valEq a.lat b.lat)]
  rfl

/-- … in particular on grids whose node coordinates are xarray coordinates of one another (Exodus
    reader): there each `DataArray.equals` call already compares both arrays, which masked the
    wrong connective. -/
theorem asis_nodeCoords (a b : Grid) (ha : a.cLon = nodeCoords a ∧ a.cLat = nodeCoords a)
    (hb : b.cLon = nodeCoords b ∧ b.cLat = nodeCoords b) :
    gridEqAsIs a b = gridEqCoords a b := by
  apply asis_partial
  rw [lonEqDA, latEqDA, ha.1, ha.2, hb.1, hb.2, coordsEq_nodeCoords, ← Bool.and_assoc,
    Bool.and_self, Bool.and_left_comm, Bool.and_self]

/-! ## the backing state (numpy / dask) is not an input of `==`

    `gridEqB` transcribes what xarray does on dask-backed variables (lazy shortcut on equal graph
    names).  As long as dask names are faithful — equal name (and shape) only on equal values,
    which is what content-derived tokens give and what the driver evaluates on every observed
    pair — the result is the value-level `gridEq`: chunking, re-chunking with other arguments,
    chunking one side only … cannot change the answer, and every theorem above transfers. -/

theorem lazyEquiv_some {ba bb : Backing} {r : Bool} (h : lazyEquiv ba bb = some r) : r = true := by
  cases ba <;> cases bb <;> simp [lazyEquiv] at h
  exact h.2

theorem varEqB_shape {s v : Bool} {ba bb : Backing} (h : varEqB s ba bb v = true) : s = true := by
  cases s with
  | true => rfl
  | false => exact h

/-- `hs` (equal values ⇒ equal shape) comes from `arrEq_length`, `connEq_shape` -/
theorem varEqB_eq {s v : Bool} {ba bb : Backing} (hf : faithful1 s ba bb v = true)
    (hs : v = true → s = true) : varEqB s ba bb v = v := by
  unfold varEqB faithful1 at *
  cases hl : lazyEquiv ba bb with
  | none => cases v <;> simp [hs]
  | some r =>
    cases lazyEquiv_some hl
    rw [hl] at hf
    cases s <;> cases v <;> simp_all

theorem connEq_shape {a b : Grid} (h : connEq a b = true) : connShapeEq a b = true := by
  simp only [connEq, connShapeEq, Bool.and_eq_true] at h ⊢
  exact ⟨h.1, arrEq_length h.2⟩

/-- **the backing does not influence `==`** when dask names are faithful. -/
theorem backing_irrelevant (a b : BGrid) (h : namesFaithful a b = true) :
    gridEqB a b = gridEq a.g b.g := by
  simp only [namesFaithful, Bool.and_eq_true] at h
  obtain ⟨⟨h1, h2⟩, h3⟩ := h
  unfold gridEqB gridEq lonEqB latEqB connEqB lonEq latEq
  rw [varEqB_eq h1 arrEq_length, varEqB_eq h2 arrEq_length, varEqB_eq h3 connEq_shape]

theorem lazyEquiv_numpy_right (b : Backing) : lazyEquiv b .numpy = none := by
  cases b <;> rfl

/-- numpy-backed on at least one side: nothing is decided lazily, names are vacuously faithful. -/
theorem namesFaithful_numpy_left (g : Grid) (b : BGrid) :
    namesFaithful { g := g } b = true := rfl

theorem namesFaithful_numpy_right (a : BGrid) (g : Grid) :
    namesFaithful a { g := g } = true := by
  simp only [namesFaithful, faithful1, lazyEquiv_numpy_right, Bool.and_self]

theorem eqB_numpy (a b : Grid) : gridEqB { g := a } { g := b } = gridEq a b :=
  backing_irrelevant _ _ (namesFaithful_numpy_left a _)

/-- **`==` is a function of the values only**: two pairs with the same values but any other
    backing states (other chunk sizes, other names, numpy on one side …) get the same answer. -/
theorem eqB_values_only (a b a' b' : BGrid) (ha : a.g = a'.g) (hb : b.g = b'.g)
    (h : namesFaithful a b = true) (h' : namesFaithful a' b' = true) :
    gridEqB a b = gridEqB a' b' := by
  rw [backing_irrelevant a b h, backing_irrelevant a' b' h', ha, hb]

theorem eqB_sound (a b : BGrid) (h : namesFaithful a b = true) (he : gridEqB a b = true) :
    Same a.g b.g := eq_sound _ _ (backing_irrelevant a b h ▸ he)

/-- a single changed entry is detected in every backing state with faithful names. -/
theorem single_change_detectedB (a b : BGrid) (h : namesFaithful a b = true)
    (hc : Change a.g b.g) : gridEqB a b = false := by
  rw [backing_irrelevant a b h]; exact (single_change_detected hc).1

example : gridEqB ⟨wA, .dask 1 [2, 1], .dask 2 [2, 1], .dask 3 [1]⟩
    ⟨wB, .dask 4 [3], .dask 2 [3], .dask 3 [1]⟩ = false :=
  single_change_detectedB _ _ (by decide +kernel)
    (Change.lon (a := wA) 1 4622382067542392832 (by decide) (by decide +kernel))

/-- without faithful names the backing DOES matter: if two grids that differ in one longitude carry the same dask names
    (names derived from format / variable name / dtype / shape instead of the contents), the lazy
    shortcut answers True.  This is the invariant `Grid.chunk()` has to keep. -/
theorem unfaithful_names_break :
    ∃ a b : BGrid, namesFaithful a b = false ∧ gridEqB a b = true ∧ gridEq a.g b.g = false :=
  ⟨⟨wA, .dask 1 [3], .dask 2 [3], .dask 3 [1]⟩, ⟨wB, .dask 1 [3], .dask 2 [3], .dask 3 [1]⟩,
    by decide +kernel⟩

/-! ## the 2-D shape of the connectivity is part of equality

    `face_node_connectivity.equals` compares the shape `(n_face, n_max_face_nodes)` before the
    entries, so two tables that flatten to the same sequence but have different shapes (12
    consecutively numbered nodes as 4 triangles, 3 quadrilaterals or 2 hexagons) are different
    grids.  Any rewrite that compares a projection of the arrays (flattened values, sorted
    values, sums, lengths …) instead of the arrays loses this. -/

/-- **equal ⇒ same number of faces and same width** (unconditional). -/
theorem eq_implies_same_shape (a b : Grid) (h : gridEq a b = true) :
    a.nFace = b.nFace ∧ a.width = b.width :=
  have hs := eq_sound a b h
  ⟨hs.nFace, hs.width⟩

/-- also in every backing state, faithful dask names or not: the shape test precedes xarray's
    lazy shortcut. -/
theorem eqB_implies_same_shape (a b : BGrid) (h : gridEqB a b = true) :
    a.g.nFace = b.g.nFace ∧ a.g.width = b.g.width := by
  simp only [gridEqB, guard_eq, Bool.not_not, Bool.and_true, Bool.and_eq_true] at h
  have hs := varEqB_shape h.2.2
  simp only [connShapeEq, Bool.and_eq_true, beq_iff_eq] at hs
  exact hs.1

/-- **a reshape is detected**: same flattened connectivity (fills included), another
    `(n_face, width)` ⇒ unequal, in both orders, whatever the coordinates are. -/
theorem reshape_detected (a b : Grid) (_hflat : a.conn = b.conn)
    (hshape : a.nFace ≠ b.nFace ∨ a.width ≠ b.width) :
    gridEq a b = false ∧ gridEq b a = false :=
  detected_both fun hs => hshape.elim (· hs.nFace) (· hs.width)

/-- 12 nodes on a circle of latitude; the same flattened table `0 … 11` as 4×3, 3×4 and 2×6 -/
def rLon : List Nat := [0, 4629137466983448576, 4633641066610819072, 4636033603912859648,
  4638144666238189568, 4639481672377565184, 4640537203540230144, 4641592734702895104,
  4642648265865560064, 4643457506423603200, 4643985272004935680, 4644513037586268160]
def rLat : List Nat := List.replicate 12 4621819117588971520
def r43 : Grid := ⟨[85], rLon, rLat, 4, 3, [0, 1, 2, 3, 4, 5, 6, 7, 8, 9, 10, 11], [], [], []⟩
def r34 : Grid := { r43 with nFace := 3, width := 4 }
def r26 : Grid := { r43 with nFace := 2, width := 6 }

example : gridEq r43 r34 = false ∧ gridEq r34 r43 = false := reshape_detected r43 r34 rfl (Or.inl (by decide))
example : gridEq r34 r26 = false ∧ gridEq r26 r34 = false := reshape_detected r34 r26 rfl (Or.inl (by decide))

/-- a comparison of the flattened tables is blind to the shape: it calls 4 triangles, 3
    quadrilaterals and 2 hexagons over the same 12 nodes equal and so violates the Spec, while
    `gridEq` tells them apart. -/
theorem flatten_blind_wrong :
    gridEqFlat r43 r34 = true ∧ gridEqFlat r34 r26 = true ∧ gridEqFlat r43 r26 = true ∧
    gridEq r43 r34 = false ∧ gridEq r34 r26 = false ∧ gridEq r43 r26 = false ∧
    ¬ Spec r43 r34 (gridEqFlat r43 r34) (!gridEqFlat r43 r34) := by
  decide +kernel

/-- the flattened comparison is right when the shapes agree. -/
theorem flat_partial (a b : Grid) (h1 : a.nFace = b.nFace) (h2 : a.width = b.width) :
    gridEqFlat a b = gridEq a b := by
  simp only [gridEqFlat, gridEq, connEq, h1, h2, beq_self_eq_true, Bool.true_and]

/-! ## the reader is injective on connectivity: `==` distinguishes SOURCE descriptions

    `gridEq` compares stored tables.  What the user changes is an entry of the source table written
    in some dialect (fill value, start index); `_process_connectivity` / `_replace_fill_values`
    map it to the stored table.  The clause "changing any single connectivity entry makes the grids
    unequal" therefore needs this map to be injective on valid source tables, proved here from an
    entry-level inverse `unprocEntry`.  The harness checks `reader_corresponds`
    (stored = `procTable` source) on every source pair. -/

theorem procEntry_fill (f start : Int) : procEntry (some f) start f = FILL := by
  by_cases hf : f = FILL <;> simp [procEntry, hf]

theorem procEntry_index {f start x : Int} (hf : x ≠ f) (hx : x ≠ FILL) :
    procEntry (some f) start x = x - start := by
  simp [procEntry, hf, hx]

/-- a stored entry back in the dialect `(fill, start)` -/
def unprocEntry (fill : Option Int) (start y : Int) : Int :=
  match fill with
  | none => y + start
  | some f => if y = FILL then f else y + start

theorem unprocEntry_procEntry (fill : Option Int) (start x : Int)
    (hx : validEntry fill start x = true) :
    unprocEntry fill start (procEntry fill start x) = x := by
  cases fill with
  | none => exact Int.sub_add_cancel x start
  | some f =>
    by_cases hf : x = f
    · rw [hf, procEntry_fill, unprocEntry, if_pos rfl]
    · simp only [validEntry, Bool.or_eq_true, beq_iff_eq, Bool.and_eq_true, bne_iff_ne, hf,
        false_or] at hx
      rw [procEntry_index hf hx.1, unprocEntry, if_neg hx.2, Int.sub_add_cancel]

theorem unproc_procTable (fill : Option Int) (start : Int) (t : Table)
    (h : validTable fill start t = true) :
    (procTable fill start t).map (·.map (unprocEntry fill start)) = t := by
  simp only [validTable, List.all_eq_true] at h
  exact map_map_eq_self fun r hr =>
    map_map_eq_self fun x hx => unprocEntry_procEntry fill start x (h r hr x hx)

/-- **the reader is injective on valid source tables** (any fill value incl. large positive
    sentinels, any start index): distinct source tables are stored as distinct tables. -/
theorem procTable_inj (fill : Option Int) (start : Int) (t₁ t₂ : Table)
    (h1 : validTable fill start t₁ = true) (h2 : validTable fill start t₂ = true)
    (h : procTable fill start t₁ = procTable fill start t₂) : t₁ = t₂ := by
  rw [← unproc_procTable fill start t₁ h1, h, unproc_procTable fill start t₂ h2]

theorem procTable_width {fill : Option Int} {start : Int} {w : Nat} {t : Table}
    (h : ∀ r ∈ t, r.length = w) : ∀ r ∈ procTable fill start t, r.length = w := by
  simpa only [procTable, List.forall_mem_map, List.length_map] using h

/-- **changing the source description is detected**: two grids read from valid source tables of
    the same shape in the same dialect, whatever their coordinates and attached coordinates — if
    the source tables differ (one entry: a real index ↔ padding, index ↔ index ± 1, …) the grids
    are unequal, in both orders. -/
theorem source_change_detected (fill : Option Int) (start : Int) (w : Nat) (t₁ t₂ : Table)
    (hw1 : ∀ r ∈ t₁, r.length = w) (hw2 : ∀ r ∈ t₂, r.length = w) (hl : t₁.length = t₂.length)
    (h1 : validTable fill start t₁ = true) (h2 : validTable fill start t₂ = true)
    (a b : Grid) (ha : a.conn = (procTable fill start t₁).flatten)
    (hb : b.conn = (procTable fill start t₂).flatten) (hne : t₁ ≠ t₂) :
    gridEq a b = false ∧ gridEq b a = false := by
  refine detected_both fun hs => hne (procTable_inj fill start t₁ t₂ h1 h2 ?_)
  refine flatten_inj_width w _ _ (procTable_width hw1) (procTable_width hw2) ?_ ?_
  · rw [procTable, procTable, List.length_map, List.length_map, hl]
  · rw [← ha, ← hb, hs.conn]

-- non-vacuity: one-past-the-end sentinel 100000 on 100000 nodes; the highest index 99999 vs padding
example : procTable (some 100000) 0 [[5, 99998, 99999]] ≠ procTable (some 100000) 0 [[5, 99998, 100000]] := by
  decide +kernel
example : validTable (some 100000) 0 [[5, 99998, 99999]] = true ∧
    validTable (some 999999) 1 [[999998, 7, 999999]] = true := by decide +kernel

/-- a TOLERANT fill test (`np.isclose` with its default relative tolerance 1e-5 ⇒ ±1 around the
    sentinel 100000, ±9 around 999999) is not injective: the highest real index is read as
    padding, so a quadrilateral and the triangle without that corner are stored identically. -/
theorem tolerant_fill_not_injective :
    [[5, 99997, 99998, 99999]].map (·.map (procEntryTol 1 100000 0))
      = [[5, 99997, 99998, 100000]].map (·.map (procEntryTol 1 100000 0)) ∧
    [[3, 4, 999990]].map (·.map (procEntryTol 9 999999 0))
      = [[3, 4, 999999]].map (·.map (procEntryTol 9 999999 0)) ∧
    procTable (some 100000) 0 [[5, 99997, 99998, 99999]]
      ≠ procTable (some 100000) 0 [[5, 99997, 99998, 100000]] := by decide +kernel

/-! ## the stored representation is not an input -/

/-- **`==` compares longitude / latitude values whatever the grids store** (spherical, Cartesian
    or both; whatever was read before). -/
theorem eq_ignores_stored_representation (a b : Grid) (s₁ t₁ s₂ t₂ : Bool) :
    gridEqS ⟨a, s₁, t₁⟩ ⟨b, s₂, t₂⟩ = gridEq a b := rfl

theorem eqS_sound (a b : SGrid) (h : gridEqS a b = true) : Same a.g b.g := eq_sound _ _ h

/-- comparing only the representations BOTH grids already store is wrong: a grid storing
    lon/lat and one storing x/y/z (same format, same connectivity, `wA`/`wB`: different
    longitudes) have no representation in common, nothing is compared, and they are called equal —
    until one side's longitudes happen to have been derived (state dependence). -/
theorem common_subset_wrong (xyzEq : Bool) :
    gridEqCommon xyzEq ⟨wA, true, false⟩ ⟨wB, false, true⟩ = true ∧
    gridEqCommon xyzEq ⟨wA, true, false⟩ ⟨wB, true, true⟩ = false ∧
    gridEqS ⟨wA, true, false⟩ ⟨wB, false, true⟩ = false ∧
    ¬ Spec wA wB (gridEqCommon xyzEq ⟨wA, true, false⟩ ⟨wB, false, true⟩)
        (!gridEqCommon xyzEq ⟨wA, true, false⟩ ⟨wB, false, true⟩) := by
  cases xyzEq <;> decide +kernel

/-- the common-subset comparison is right when both grids store longitude / latitude. -/
theorem common_partial (xyzEq : Bool) (a b : SGrid) (ha : a.hasLL = true) (hb : b.hasLL = true)
    (hx : a.hasXYZ = false ∨ b.hasXYZ = false) : gridEqCommon xyzEq a b = gridEqS a b := by
  have hxyz : (a.hasXYZ && b.hasXYZ) = false := by
    rcases hx with hx | hx <;> rw [hx]
    · rfl
    · exact Bool.and_false _
  rw [gridEqCommon, ha, hb, hxyz]
  rfl

end UxVerif.C20
