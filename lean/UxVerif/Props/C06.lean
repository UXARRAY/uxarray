/-
  C06 — Integration is the area-weighted sum over faces.

  About `Integrate.integrate` (the repaired, dimension-name based dispatch of
  `UxDataArray.integrate`) for every grid, areas, rank and data over a commutative semiring:
  linearity, shape, values, relabelling (`integrate_add` … `integrate_perm`); dispatch by name
  (`dispatch_rejects`) against the as-is dispatch on the LENGTH of the last dimension
  (`asis_integrates_node_data`, tetrahedron n_node = n_face = 4); refinement
  (`integrate_meets_spec`); process state; special values; the float tolerance
  (`close_of_rounded`: any order of summation stays inside `n_face·2⁻⁵²·Σ|area·value|`).

  A *seeded change* (`seeded/<id>`) is a deliberately wrong variant of the code that a check must
  catch; C06e, C06f, C06g are modelled here as `runIdCache`, `integrateLenFallback`, `dotSkipNaN`.
-/
import Mathlib.Tactic.Ring
import Mathlib.Algebra.Order.Field.Rat
import UxVerif.Lemmas.Integrate
import UxVerif.Lemmas.IntegrateRound
import UxVerif.Lemmas.IntegrateClose
import UxVerif.Model.Integrate
import UxVerif.Gen.Defaults

namespace UxVerif.C06
open UxVerif UxVerif.Integrate

section Semiring
variable {K : Type} [CommSemiring K]

/-- `a + b`, `c * a`, `c * ones_like` -/
def addA (x y : Arr K) : Arr K := { x with data := List.zipWith (· + ·) x.data y.data }
def smulA (c : K) (x : Arr K) : Arr K := { x with data := x.data.map (c * ·) }
def constA (c : K) (dims : List Dim) (shape : List Nat) (name : Option Nat) (grid : Nat) : Arr K :=
  { dims := dims, shape := shape, data := List.replicate (prodL shape) c, name := name, grid := grid }
/-- the faces relabelled by `p` along the last axis (`data[..., p]`), `m` leading index
    combinations, `n` faces -/
def permA (p : List Nat) (m n : Nat) (x : Arr K) : Arr K :=
  { x with data := ((rowsOf m n x.data).map (reindex p)).flatten }

/-- **linearity, additive part**: ∫(x + y) = ∫x + ∫y for face-centred variables of one shape. -/
theorem integrate_add (g : Grid) (areas : List K) (x y : Arr K)
    (hx : FaceCentred g x) (hy : FaceCentred g y) (hs : x.shape = y.shape) :
    integrate g areas x = .ok (result areas x) ∧ integrate g areas y = .ok (result areas y) ∧
    integrate g areas (addA x y) = .ok (addA (result areas x) (result areas y)) := by
  have hlen : x.data.length = y.data.length := by rw [hx.2.2.2.1, hy.2.2.2.1, hs]
  refine ⟨integrate_accepts g areas x hx, integrate_accepts g areas y hy,
    (integrate_eq_ok_iff g areas _ _).mpr ⟨hx.1, hx.2.1, ?_⟩⟩
  simp only [result, addA, ← hs, integrateData_add areas _ _ _ hlen]

/-- **linearity, homogeneous part**: ∫(c·x) = c·∫x. -/
theorem integrate_smul (g : Grid) (areas : List K) (c : K) (x : Arr K) (hx : FaceCentred g x) :
    integrate g areas (smulA c x) = .ok (smulA c (result areas x)) := by
  refine (integrate_eq_ok_iff g areas _ _).mpr ⟨hx.1, hx.2.1, ?_⟩
  simp only [result, smulA, integrateData_smul]

/-- **integrating the constant 1 gives the total area**, for every leading shape. -/
theorem integrate_one (g : Grid) (areas : List K) (lead : List Nat) (dims : List Dim)
    (name : Option Nat) (ha : areas.length = g.nFace) :
    integrate g areas (constA 1 (dims ++ [Dim.face]) (lead ++ [g.nFace]) name g.gid) =
      .ok (constA (sumL areas) dims lead name g.gid) := by
  refine (integrate_eq_ok_iff g areas _ _).mpr ⟨List.getLast?_concat .., List.getLast?_concat .., ?_⟩
  simp only [result, constA, List.dropLast_concat, prodL_append, prodL, Nat.mul_one, ← ha,
    integrateData, rowsOf_replicate, List.map_replicate, dot_ones]

/-- **shape**: exactly the (last) face dimension is removed, for every rank; the result is a
    well-formed array; name and grid are kept. -/
theorem integrate_shape (g : Grid) (areas : List K) (a : Arr K) (h : FaceCentred g a) :
    ∃ r, integrate g areas a = .ok r ∧
      a.dims = r.dims ++ [Dim.face] ∧ a.shape = r.shape ++ [g.nFace] ∧
      r.dims.length = r.shape.length ∧ r.data.length = prodL r.shape ∧
      r.name = a.name ∧ r.grid = a.grid := by
  refine ⟨result areas a, integrate_accepts g areas a h, dropLast_getLast _ _ h.1, h.shape_eq,
    ?_, integrateData_length .., rfl, rfl⟩
  simp only [result, List.length_dropLast, h.2.2.1]

/-- **values**: for EVERY multi-index `idx` of the leading dimensions the result holds
    Σ_f area[f] · value[idx, f] (the row is read from the flat data at the row-major positions of
    `(idx, f)`, all of which are in bounds). -/
theorem integrate_index (g : Grid) (areas : List K) (a : Arr K) (h : FaceCentred g a)
    (ha : areas.length = g.nFace) (idx : List Nat) (hidx : InShape a.shape.dropLast idx) :
    ∃ row : List K, row.length = g.nFace ∧
      (∀ f, f < g.nFace → ravel a.shape (idx ++ [f]) < a.data.length ∧
        row[f]? = a.data[ravel a.shape (idx ++ [f])]?) ∧
      (result areas a).data[ravel a.shape.dropLast idx]? = some (dot areas row) := by
  have hi := ravel_lt _ _ hidx
  refine ⟨rowAt g.nFace a.data (ravel a.shape.dropLast idx),
    rowAt_length _ _ _ _ h.data_length hi, fun f hf => ?_, ?_⟩
  · have hrav : ravel a.shape (idx ++ [f]) = ravel a.shape.dropLast idx * g.nFace + f := by
      conv_lhs => rw [h.shape_eq]
      exact ravel_snoc _ _ _ _ hidx
    rw [hrav, h.data_length]
    exact ⟨mul_add_lt_mul hi hf, rowAt_getElem? _ _ _ _ hf⟩
  · rw [← ha]
    exact integrateData_getElem? areas _ a.data _ hi

/-- **invariance under relabelling the faces**: permuting areas and the last axis of the data by
    the same permutation `p` of `0..n_face-1` leaves the integral unchanged. -/
theorem integrate_perm (g : Grid) (areas : List K) (a : Arr K) (h : FaceCentred g a)
    (ha : areas.length = g.nFace) (p : List Nat) (hp : p.Perm (List.range g.nFace)) :
    integrate g (reindex p areas) (permA p (prodL a.shape.dropLast) g.nFace a) =
      integrate g areas a := by
  have hrows := rowsOf_row_length _ _ _ h.data_length
  simp only [integrate, permA, h.1, h.2.1, if_true, result, integrateData,
    reindex_length hp areas ha, ha]
  congr 2
  have hflat := rowsOf_flatten g.nFace
    ((rowsOf (prodL a.shape.dropLast) g.nFace a.data).map (reindex p))
    (List.forall_mem_map.mpr fun r hr => reindex_length hp r (hrows r hr))
  rw [List.length_map, rowsOf_length] at hflat
  rw [hflat, List.map_map]
  exact List.map_congr_left fun r hr => dot_reindex hp areas r ha (hrows r hr)

/-! ## dispatch -/

/-- **rejection by dimension**: a variable whose element dimension is `n_node` or `n_edge` is
    rejected — for every grid, in particular when `n_node = n_face` or `n_edge = n_node`, and
    whatever its shape. -/
theorem dispatch_rejects (g : Grid) (areas : List K) (a : Arr K) (h : NodeOrEdge a) :
    ∃ e, integrate g areas a = .error e :=
  integrate_error_of_ne_face g areas a (ne_face_of_nodeOrEdge h)

/-- the result carries the variable's name and the identity of its grid -/
theorem integrate_keeps_name_grid (g : Grid) (areas : List K) (a r : Arr K)
    (h : integrate g areas a = .ok r) : r.name = a.name ∧ r.grid = a.grid := by
  obtain ⟨_, _, rfl⟩ := (integrate_eq_ok_iff g areas a r).mp h
  exact ⟨rfl, rfl⟩

/-- **acceptance ⇔ the last dimension is NAMED `n_face`** (and has the grid's face count) -/
theorem integrate_ok_iff (g : Grid) (areas : List K) (a : Arr K) :
    (∃ r, integrate g areas a = .ok r) ↔
      a.dims.getLast? = some Dim.face ∧ a.shape.getLast? = some g.nFace :=
  ⟨fun ⟨r, h⟩ => let ⟨hd, hs, _⟩ := (integrate_eq_ok_iff g areas a r).mp h; ⟨hd, hs⟩,
    fun ⟨hd, hs⟩ => ⟨_, (integrate_eq_ok_iff g areas a _).mpr ⟨hd, hs, rfl⟩⟩⟩

/-- **dispatch by name**: `integrate` never reads `n_node`, `n_edge` (nor the grid's identity):
    two grids with the same face count give the same decision AND the same result, whatever
    their node/edge counts are — equal to `n_face`, to each other, or not. -/
theorem integrate_dispatch_by_name (g g' : Grid) (areas : List K) (a : Arr K)
    (h : g.nFace = g'.nFace) : integrate g areas a = integrate g' areas a := by
  unfold integrate
  rw [h]

/-- a last dimension with any name other than `n_face` is rejected — `n_node`, `n_edge`, `dim_0`,
    `nCells`, …, for every length (also the face count) and every grid -/
theorem integrate_rejects_non_face_name (g : Grid) (areas : List K) (a : Arr K)
    (h : a.dims.getLast? ≠ some Dim.face) : ∃ e, integrate g areas a = .error e :=
  integrate_error_of_ne_face g areas a h

/-- node- or edge-sized data under a non-grid name is rejected, in particular on grids where that
    length equals `n_face` -/
theorem unnamed_sized_rejects (g : Grid) (areas : List K) (a : Arr K) (h : SizedUnnamed g a) :
    ∃ e, integrate g areas a = .error e :=
  integrate_error_of_ne_face g areas a (ne_face_of_nonGridName h.1)

/-- the accept/reject decision of two arrays with the same last-dimension name and length is the
    same — nothing else about them matters -/
theorem integrate_decision_congr (g : Grid) (areas : List K) (a b : Arr K)
    (hd : a.dims.getLast? = b.dims.getLast?) (hs : a.shape.getLast? = b.shape.getLast?) :
    (∃ r, integrate g areas a = .ok r) ↔ (∃ r, integrate g areas b = .ok r) := by
  rw [integrate_ok_iff, integrate_ok_iff, hd, hs]

/-- the length-fallback variant (seeded change C06f, seeded/C06f) is right where the counts differ from
    `n_face` (excluded class: `n_node = n_face ∨ n_edge = n_face`, see
    `lenfallback_integrates_unnamed_node_data`) -/
theorem lenfallback_rejects_partial (g : Grid) (areas : List K) (a : Arr K)
    (hnf : g.nNode ≠ g.nFace) (hef : g.nEdge ≠ g.nFace) (h : SizedUnnamed g a) :
    ∃ e, integrateLenFallback g areas a = .error e := by
  unfold integrateLenFallback
  split
  · rename_i hs
    rcases h.2 with hl | hl <;> cases hs.symm.trans hl
    · rw [if_neg hnf, if_pos rfl]
      exact ⟨_, rfl⟩
    · rw [if_neg hef]
      split
      · exact ⟨_, rfl⟩
      · rw [if_pos rfl]
        exact ⟨_, rfl⟩
  · exact integrate_error_of_ne_face g areas a (ne_face_of_nonGridName h.1)

/-- the as-is dispatch agrees with the repaired one on face-centred variables … -/
theorem asis_accepts (g : Grid) (areas : List K) (a : Arr K) (h : FaceCentred g a) :
    integrateAsIs g areas a = integrate g areas a := by
  rw [integrate_accepts g areas a h]
  simp only [integrateAsIs, h.2.1, if_true]

/-- … and rejects well-formed (`hn`, `he`) node/edge variables on grids whose element counts are
    pairwise different from
    `n_face` (the class the as-is code gets right; the excluded class is
    `n_node = n_face ∨ n_edge = n_face`, see `asis_integrates_node_data`). -/
theorem asis_dispatch_rejects_partial (g : Grid) (areas : List K) (a : Arr K)
    (hn : a.dims.getLast? = some Dim.node → a.shape.getLast? = some g.nNode)
    (he : a.dims.getLast? = some Dim.edge → a.shape.getLast? = some g.nEdge)
    (hnf : g.nNode ≠ g.nFace) (hef : g.nEdge ≠ g.nFace) (h : NodeOrEdge a) :
    ∃ e, integrateAsIs g areas a = .error e := by
  rcases h with h | h
  · simp only [integrateAsIs, hn h, if_neg hnf, if_true]
    exact ⟨_, rfl⟩
  · simp only [integrateAsIs, he h, if_neg hef, if_true]
    split <;> exact ⟨_, rfl⟩

end Semiring

/-! ## witnesses; legacy `UxDataset.integrate` -/

/-- tetrahedron: 4 nodes, 4 faces, 6 edges -/
def tetra : Grid := { nFace := 4, nNode := 4, nEdge := 6, gid := 7 }
/-- node-centred data on the tetrahedron -/
def tetraNodeData : Arr Nat :=
  { dims := [Dim.node], shape := [4], data := [0, 1, 2, 3], name := some 0, grid := 7 }

/-- what the as-is code returns on the witness: the "integral" 0·1+1·1+2·1+3·1 = 6 -/
theorem asis_witness_value :
    integrateAsIs tetra [1, 1, 1, 1] tetraNodeData =
      .ok { dims := [], shape := [], data := [6], name := some 0, grid := 7 } := by decide

/-- **as-is defect**: the size-based dispatch integrates node-centred data when
    `n_node = n_face`; `dispatch_rejects` is false of `integrateAsIs`. -/
theorem asis_integrates_node_data :
    ¬ (∀ (g : Grid) (areas : List Nat) (a : Arr Nat), NodeOrEdge a →
        ∃ e, integrateAsIs g areas a = .error e) := by
  intro h
  obtain ⟨e, he⟩ := h tetra [1, 1, 1, 1] tetraNodeData (by decide)
  rw [asis_witness_value] at he
  cases he

/-- the repaired dispatch rejects the same witness -/
theorem repaired_rejects_witness :
    integrate tetra [1, 1, 1, 1] tetraNodeData = .error .node := by decide

/-- node-sized data on the tetrahedron under a non-grid name (`dim_0`, `nVertices`, …) -/
def tetraUnnamed : Arr Nat :=
  { dims := [Dim.other 0], shape := [4], data := [0, 1, 2, 3], name := some 0, grid := 7 }

/-- **seeded change C06f** (seeded/C06f): inferring the element kind of an unnamed dimension from its
    LENGTH integrates node-sized data on the tetrahedron (n_node = n_face = 4) -/
theorem lenfallback_integrates_unnamed_node_data :
    ¬ (∀ (g : Grid) (areas : List Nat) (a : Arr Nat), SizedUnnamed g a →
        ∃ e, integrateLenFallback g areas a = .error e) := by
  intro h
  obtain ⟨e, he⟩ := h tetra [1, 1, 1, 1] tetraUnnamed (by decide)
  cases e <;> exact absurd he (by decide)

/-- the repaired (name-only) dispatch rejects that witness, as `/repo` does -/
theorem repaired_rejects_unnamed_witness :
    SizedUnnamed tetra tetraUnnamed ∧
    integrate tetra [1, 1, 1, 1] tetraUnnamed = .error .other := by decide

/-- **known finding** (legacy `UxDataset.integrate`): no dispatch at all — node data of the right
    length is integrated -/
theorem asis_dataset_integrates_node_data :
    ¬ (∀ (g : Grid) (areas : List Nat) (a : Arr Nat), NodeOrEdge a →
        ∃ e, datasetIntegrateAsIs g areas a = .error e) := by
  intro h
  obtain ⟨e, he⟩ := h tetra [1, 1, 1, 1] tetraNodeData (by decide)
  cases e <;> exact absurd he (by decide)

/-- **known finding** (legacy `UxDataset.integrate`): a face-centred variable with a leading
    dimension is not integrated -/
theorem asis_dataset_rejects_leading_dims :
    ∃ (g : Grid) (areas : List Nat) (a : Arr Nat), FaceCentred g a ∧
      datasetIntegrateAsIs g areas a = .error .other :=
  ⟨{ nFace := 2, nNode := 4, nEdge := 5, gid := 1 }, [5, 7],
   { dims := [Dim.other 0, Dim.face], shape := [3, 2], data := [1, 2, 3, 4, 5, 6], name := none,
     grid := 1 }, by decide, by decide⟩

/-- on 1-D face-centred variables the legacy method computes the same numbers -/
theorem asis_dataset_1d_partial {K : Type} [CommSemiring K] (g : Grid) (areas : List K) (a : Arr K)
    (h : FaceCentred g a) (h1 : a.shape.length = 1) :
    datasetIntegrateAsIs g areas a = integrate g areas a := by
  rw [integrate_accepts g areas a h]
  obtain ⟨_, hs, _⟩ := h
  have : a.shape = [g.nFace] := by
    match hsh : a.shape, h1 with
    | [x], _ => rw [hsh] at hs; simp at hs; rw [hs]
  simp [datasetIntegrateAsIs, this]

/-! ## refinement -/

/-- the printed clause list is empty exactly when the specification holds -/
theorem failedClauses_nil_iff (g : Grid) (areas : List Rat) (a : Arr Rat) (o : Obs) :
    failedClauses g areas a o = [] ↔ Spec g areas a o := by
  cases o <;> simp [failedClauses, Spec]

/-- **refinement**: on every input the (repaired) model's exact output satisfies the
    specification the driver evaluates on the implementation's output. -/
theorem integrate_meets_spec (g : Grid) (areas : List Rat) (a : Arr Rat) :
    Spec g areas a (obsOf (integrate g areas a)) := by
  refine ⟨fun h => ?_, fun h => ?_, fun h => ?_⟩
  · rw [integrate_accepts g areas a h]
    exact ⟨result areas a, rfl, rfl, ⟨rfl, integrateData_length ..⟩, rfl, rfl, fun i hi =>
      ⟨_, integrateData_getElem? areas _ a.data i hi, close_exact _ _⟩⟩
  · obtain ⟨e, he⟩ := dispatch_rejects g areas a h
    rw [he]; rfl
  · obtain ⟨e, he⟩ := unnamed_sized_rejects g areas a h
    rw [he]; rfl

/-- the as-is model violates the specification on the tetrahedron witness -/
theorem asis_fails_spec :
    ¬ Spec tetra [1, 1, 1, 1]
        { dims := [Dim.node], shape := [4], data := [0, 1, 2, 3], name := some 0, grid := 7 }
        (obsOf (integrateAsIs tetra [1, 1, 1, 1]
          { dims := [Dim.node], shape := [4], data := [0, 1, 2, 3], name := some 0, grid := 7 })) :=
  fun h => absurd (h.2.1 (by decide)) (by decide)

/-- the length-fallback variant violates the specification on the unnamed tetrahedron witness -/
theorem lenfallback_fails_spec :
    ¬ Spec tetra [1, 1, 1, 1]
        { dims := [Dim.other 0], shape := [4], data := [0, 1, 2, 3], name := some 0, grid := 7 }
        (obsOf (integrateLenFallback tetra [1, 1, 1, 1]
          { dims := [Dim.other 0], shape := [4], data := [0, 1, 2, 3], name := some 0, grid := 7 })) :=
  fun h => absurd (h.2.2 (by decide)) (by decide)

/-! ## no dependence on previously integrated grids (process state)

  For the MODEL this is true by construction (`runProcess` is a `map`): the theorem below only
  makes the obligation explicit.  That the CODE has no such state is a correspondence obligation,
  discharged by the harness's process-state streams (20–40 grids built, integrated and released
  one after another, equal n_face, different geometry, address re-use counted).  The seeded
  change C06e (`runIdCache`: table keyed by the grid's address) has the counterexample
  `idcache_depends_on_history` and is correct exactly as long as no two different grids share an
  address (`idcache_partial`). -/

section Process
variable {K : Type} [CommSemiring K]

/-- **history independence**: whatever was integrated before (any grids, any rules, any data),
    the result of a call is `integrate` of its own grid, its own areas and its own data. -/
theorem process_independent (pre : List (Step K)) (s : Step K) (post : List (Step K)) :
    (runProcess (pre ++ s :: post))[pre.length]? = some (integrate s.g s.areas s.a) := by
  rw [runProcess, List.getElem?_map, List.getElem?_append_right (Nat.le_refl _), Nat.sub_self]
  rfl

/-- the id-keyed cache is right as long as calls with the same (address, rule) key carry the same
    areas — i.e. as long as no address is re-used by a different grid (excluded class: address
    re-use after garbage collection, see `idcache_depends_on_history`) -/
theorem idcache_partial (cache : List ((Nat × Nat) × List K)) (steps : List (Step K))
    (hc : ∀ s ∈ steps, ∀ v, cache.lookup (s.addr, s.rule) = some v → v = s.areas)
    (hs : ∀ s ∈ steps, ∀ t ∈ steps, (s.addr, s.rule) = (t.addr, t.rule) → s.areas = t.areas) :
    runIdCache cache steps = runProcess steps := by
  induction steps generalizing cache with
  | nil => rfl
  | cons s ss ih =>
    obtain ⟨hc0, hcs⟩ := List.forall_mem_cons.mp hc
    obtain ⟨hs0, hss⟩ := List.forall_mem_cons.mp hs
    have hss := fun x hx => (List.forall_mem_cons.mp (hss x hx)).2
    simp only [runIdCache, runProcess, List.map_cons]
    unfold stepIdCache
    split
    · cases hl : cache.lookup (s.addr, s.rule) with
      | some ar =>
        rw [hc0 ar hl]
        exact congrArg _ (ih cache hcs hss)
      | none =>
        -- the new entry serves exactly the later calls with this call's key
        refine congrArg _ (ih _ (fun x hx v hv => ?_) hss)
        rw [List.lookup_cons] at hv
        cases hk : (x.addr, x.rule) == (s.addr, s.rule) with
        | true =>
          rw [hk] at hv
          cases hv
          exact hs0 x (List.mem_cons_of_mem _ hx) (beq_iff_eq.mp hk).symm
        | false =>
          rw [hk] at hv
          exact hcs x hx v hv
    · exact congrArg _ (ih cache hcs hss)

end Process

/-- two different 2-face grids that live, one after the other, at the same address 100 -/
def procA : Step Nat :=
  { addr := 100, rule := 3, g := { nFace := 2, nNode := 4, nEdge := 5, gid := 1 }, areas := [5, 7],
    a := { dims := [Dim.face], shape := [2], data := [1, 1], name := none, grid := 1 } }
def procB : Step Nat :=
  { addr := 100, rule := 3, g := { nFace := 2, nNode := 4, nEdge := 5, gid := 2 }, areas := [1, 2],
    a := { dims := [Dim.face], shape := [2], data := [1, 1], name := none, grid := 2 } }

/-- **seeded change C06e** (seeded/C06e): with a table keyed by the grid's address, ∫1 on the second grid
    returns the FIRST grid's total area (12 instead of 3): the result depends on the history -/
theorem idcache_depends_on_history :
    runIdCache [] [procA, procB] ≠ runProcess [procA, procB] ∧
    (runIdCache [] [procA, procB])[1]? =
      some (.ok { dims := [], shape := [], data := [12], name := none, grid := 2 }) ∧
    (runProcess [procA, procB])[1]? =
      some (.ok { dims := [], shape := [], data := [3], name := none, grid := 2 }) := by decide

-- non-vacuity of `idcache_partial`: distinct addresses, empty table
example : runIdCache [] [procA, { procB with addr := 101 }] = runProcess [procA, { procB with addr := 101 }] := by
  decide
example : (runProcess ([procA] ++ procB :: []))[[procA].length]? = some (integrate procB.g procB.areas procB.a) :=
  process_independent [procA] procB []

/-! ## special values: NaN and ±∞ in the data

  `integrate` over `ExtVal` (the same model function, IEEE rules on the special values, exact
  rationals on finite ones).  A NaN on one face of a row makes that row's integral NaN — it is
  never skipped; on finite data the extended model is the rational model.  xarray's
  `sum(skipna=True)` (seeded change C06g, `dotSkipNaN`) has the counterexample
  `skipna_drops_nan`. -/

section Ext
open ExtVal

theorem dot_cons' {K : Type} [Add K] [Mul K] [OfNat K 0] (x y : K) (a r : List K) :
    dot (x :: a) (y :: r) = x * y + dot a r := rfl

theorem ext_fin_add (a b : Rat) : (ExtVal.fin a + ExtVal.fin b : ExtVal) = ExtVal.fin (a + b) := rfl
theorem ext_fin_mul (a b : Rat) : (ExtVal.fin a * ExtVal.fin b : ExtVal) = ExtVal.fin (a * b) := rfl

/-- **NaN propagates through `integrate`**: if face `f` of leading index `i` holds NaN, element `i`
    of the result is NaN — for every grid, rank and every other value in the array -/
theorem integrate_nan_propagates (g : Grid) (areas : List Rat) (a : Arr ExtVal)
    (h : FaceCentred g a) (ha : areas.length = g.nFace) (i f : Nat)
    (hi : i < prodL a.shape.dropLast) (hf : f < g.nFace)
    (hnan : a.data[i * g.nFace + f]? = some ExtVal.nan) :
    ∃ r, integrate g (areas.map ExtVal.fin) a = .ok r ∧ r.data[i]? = some ExtVal.nan := by
  refine ⟨_, integrate_accepts g _ a h, ?_⟩
  rw [result, integrateData_getElem? _ _ _ _ hi, List.length_map, ha]
  exact congrArg some (dot_nan_propagates areas _ f (ha ▸ hf) ((rowAt_getElem? _ _ _ _ hf).trans hnan))

/-- on finite data the extended model IS the rational model (conservative extension) -/
theorem dot_ext_finite (areas : List Rat) : ∀ qs : List Rat,
    dot (areas.map ExtVal.fin) (qs.map ExtVal.fin) = ExtVal.fin (dot areas qs) := by
  induction areas with
  | nil => intro qs; cases qs <;> rfl
  | cons a as ih =>
    intro qs
    cases qs with
    | nil => rfl
    | cons q qs => simp only [List.map_cons, dot_cons', ih qs, ext_fin_mul, ext_fin_add]

theorem integrateData_ext_finite (areas : List Rat) (m : Nat) (data : List Rat) :
    integrateData (areas.map ExtVal.fin) m (data.map ExtVal.fin) =
      (integrateData areas m data).map ExtVal.fin := by
  simp only [integrateData, List.length_map, rowsOf_map, List.map_map]
  exact List.map_congr_left fun r _ => dot_ext_finite areas r

theorem failedClausesE_nil_iff (g : Grid) (areas : List Rat) (a : Arr ExtVal) (o : ObsE) :
    failedClausesE g areas a o = [] ↔ SpecE g areas a o := by
  cases o <;> simp [failedClausesE, SpecE]

/-- **refinement on special values**: the model run over extended values satisfies `SpecE` -/
theorem integrateE_meets_spec (g : Grid) (areas : List Rat) (a : Arr ExtVal) :
    SpecE g areas a (obsEOf (integrate g (areas.map ExtVal.fin) a)) := by
  refine ⟨fun h => ?_, fun h => ?_, fun h => ?_⟩
  · rw [integrate_accepts g _ a h]
    refine ⟨_, rfl, ⟨rfl, ⟨rfl, integrateData_length ..⟩, rfl, rfl⟩, fun i hi => ?_⟩
    refine ⟨_, integrateData_getElem? _ _ a.data i hi, ?_⟩
    rw [List.length_map]
    exact closeE_self _ _
  · obtain ⟨e, he⟩ := integrate_error_of_ne_face g (areas.map ExtVal.fin) a (ne_face_of_nodeOrEdge h)
    rw [he]; rfl
  · obtain ⟨e, he⟩ :=
      integrate_error_of_ne_face g (areas.map ExtVal.fin) a (ne_face_of_nonGridName h.1)
    rw [he]; rfl

/-- **seeded change C06g** (seeded/C06g): a NaN-skipping sum returns the finite sum of the other faces (3
    instead of NaN), integrates an all-NaN row to 0, and fails the specification's value clause -/
theorem skipna_drops_nan :
    dotSkipNaN [1, 1] [ExtVal.nan, ExtVal.fin 3] = ExtVal.fin 3 ∧
    dot ([1, 1].map ExtVal.fin) [ExtVal.nan, ExtVal.fin 3] = ExtVal.nan ∧
    dotSkipNaN [1, 1] [ExtVal.nan, ExtVal.nan] = ExtVal.fin 0 ∧
    ¬ CloseE [1, 1] [ExtVal.nan, ExtVal.fin 3] (dotSkipNaN [1, 1] [ExtVal.nan, ExtVal.fin 3]) := by
  decide +kernel

/-- the skipping sum is right exactly on the class it was written for: no NaN in the row and no
    zero area (so that no product is NaN) -/
theorem skipna_partial (areas : List Rat) : ∀ row : List ExtVal,
    (∀ d ∈ row, d ≠ ExtVal.nan) → (∀ a ∈ areas, a ≠ 0) →
    dotSkipNaN areas row = dot (areas.map ExtVal.fin) row := by
  induction areas with
  | nil => intro row _ _; cases row <;> rfl
  | cons a as ih =>
    intro row hrow hz
    cases row with
    | nil => rfl
    | cons d ds =>
      have hprod := fin_mul_ne_nan (hz a List.mem_cons_self) (hrow d List.mem_cons_self)
      -- `hprod` selects the branch of `dotSkipNaN` that keeps the product
      simp only [dotSkipNaN, List.map_cons, dot_cons']
      rw [ih ds (fun x hx => hrow x (List.mem_cons_of_mem _ hx))
        (fun x hx => hz x (List.mem_cons_of_mem _ hx))]

-- non-vacuity: a 2×2 array with one NaN; the NaN row integrates to NaN, the other to 5·1 + 7·2
example : integrate { nFace := 2, nNode := 4, nEdge := 5, gid := 1 } ([5, 7].map ExtVal.fin)
    { dims := [Dim.other 0, Dim.face], shape := [2, 2],
      data := [ExtVal.fin 1, ExtVal.fin 2, ExtVal.nan, ExtVal.fin 4], name := none, grid := 1 } =
    .ok { dims := [Dim.other 0], shape := [2], data := [ExtVal.fin 19, ExtVal.nan], name := none, grid := 1 } := by
  decide +kernel
-- ∞ − ∞ and ∞·0 are NaN, +∞ alone stays +∞
example : dot ([1, 1].map ExtVal.fin) [ExtVal.pinf, ExtVal.ninf] = ExtVal.nan ∧
    dot ([0, 1].map ExtVal.fin) [ExtVal.pinf, ExtVal.fin 2] = ExtVal.nan ∧
    dot ([2, 1].map ExtVal.fin) [ExtVal.pinf, ExtVal.fin 2] = ExtVal.pinf := by
  decide +kernel
example : (∀ d ∈ [ExtVal.pinf, ExtVal.fin 2], d ≠ ExtVal.nan) ∧ (∀ a ∈ ([2, 1] : List Rat), a ≠ 0) := by
  decide +kernel

end Ext

/-! ## the float tolerance of the specification is a theorem, for ANY order of summation

  `Close` (what the driver evaluates on the implementation's float output) allows
  `n_face · 2⁻⁵² · Σ|area·value|` around the exact sum.  Under the standard model of IEEE
  binary64 arithmetic (every product and every addition has relative error ≤ 2⁻⁵³; a fused
  multiply-add is the case "product error 0"; no underflow/overflow) EVERY bracketing of EVERY
  permutation of the terms — left-to-right loop, pairwise, SIMD lanes, BLAS blocks — delivers a
  value inside that tolerance.  So a `values` verdict of the check cannot be a rounding artefact of
  whichever summation order `np.einsum` picks. -/

/-- unit round-off of IEEE binary64 (round to nearest): 2⁻⁵³ -/
def u64 : Rat := ulp / 2

theorem u64_nonneg : 0 ≤ u64 := by unfold u64 ulp; norm_num

/-- **any summation order is inside the tolerance**: if `x` is a possible binary64 result of
    summing the products `areas[f]·row[f]` in the order/bracketing `t` (any permutation, any
    tree), then `Close areas row x` (`hn`: `rounded_err_linear` needs `n·2⁻⁵³ ≤ 1`). -/
theorem close_of_rounded (areas row : List Rat) (t : SumTree Rat) (x : Rat)
    (hperm : t.leaves.Perm (areas.zip row)) (hlen : row.length = areas.length)
    (hn : areas.length ≤ 2 ^ 53) (h : Rounded u64 t x) : Close areas row x := by
  have hu := u64_nonneg
  have hleaves : t.leaves.length = areas.length := by
    rw [hperm.length_eq, List.length_zip, hlen, Nat.min_self]
  have hexact : t.exact = dot areas row := by
    rw [exact_eq_sum, dot_eq_sum_zip]
    exact sumL_perm (hperm.map _)
  have habs : t.absSum = sumAbs areas row := by
    rw [absSum_eq_sum, sumAbs_eq_sum]
    exact sumL_perm (hperm.map _)
  have hnu : (t.leaves.length : Rat) * u64 ≤ 1 := by
    rw [hleaves]
    calc (areas.length : Rat) * u64 ≤ 2 ^ 53 * u64 :=
          mul_le_mul_of_nonneg_right (by exact_mod_cast hn) hu
      _ = 1 := by unfold u64 ulp; norm_num
  have := rounded_err_linear hu h hnu
  rw [hexact, habs, hleaves] at this
  unfold Close
  rw [absQ_eq_abs]
  exact this.trans_eq (by unfold u64; ring)

/-- **no rounding false alarm**: whatever order of summation the implementation uses for each
    leading index, its binary64 output satisfies the `values` clause of the specification. -/
theorem spec_values_of_rounded (g : Grid) (areas : List Rat) (a r : Arr Rat)
    (h : FaceCentred g a) (ha : areas.length = g.nFace) (hn : g.nFace ≤ 2 ^ 53)
    (hr : ∀ i, i < prodL a.shape.dropLast → ∃ v t, r.data[i]? = some v ∧
      (SumTree.leaves t).Perm (areas.zip (rowAt g.nFace a.data i)) ∧ Rounded u64 t v) :
    SpecValues areas a r := by
  intro i hi
  obtain ⟨v, t, hv, hp, hrd⟩ := hr i hi
  refine ⟨v, hv, ?_⟩
  rw [ha]
  exact close_of_rounded areas _ t v hp
    (by rw [rowAt_length _ _ _ _ h.data_length hi, ha]) (ha ▸ hn) hrd

/-- the left-to-right loop of the terms in face order is one of the covered orders -/
theorem close_of_rounded_loop (areas row : List Rat) (p : Rat × Rat) (qs : List (Rat × Rat))
    (hz : areas.zip row = p :: qs) (hlen : row.length = areas.length)
    (hn : areas.length ≤ 2 ^ 53) (x : Rat) (h : Rounded u64 (SumTree.chain p qs) x) :
    Close areas row x :=
  close_of_rounded areas row _ x (by rw [chain_leaves, hz]) hlen hn h

/-- non-vacuity: a pairwise bracketing of a permuted 3-term sum with three non-zero rounding
    errors, and the resulting value is inside the tolerance by `close_of_rounded` -/
example :
    let t : SumTree Rat := .add (.leaf 3 (5 / 8)) (.add (.leaf (1 / 2) 4) (.leaf 7 (-2)))
    let x : Rat := (3 * (5 / 8) * (1 + u64) + (1 / 2 * 4 * (1 + 0) + 7 * (-2) * (1 + -u64)) * (1 + u64))
      * (1 + -u64)
    Rounded u64 t x ∧ Close [1 / 2, 3, 7] [4, 5 / 8, -2] x := by
  intro t x
  have hu : |u64| ≤ u64 := (abs_of_nonneg u64_nonneg).le
  have hu' : |(-u64)| ≤ u64 := (abs_neg u64).trans_le hu
  have h0 : |(0 : Rat)| ≤ u64 := abs_zero.trans_le u64_nonneg
  have hr : Rounded u64 t x :=
    Rounded.add _ (Rounded.leaf _ _ _ hu)
      (Rounded.add _ (Rounded.leaf _ _ _ h0) (Rounded.leaf _ _ _ hu') hu) hu'
  exact ⟨hr, close_of_rounded _ _ t x (List.Perm.swap _ _ _) rfl (by norm_num) hr⟩

/-! ## non-vacuity -/

def g2 : Grid := { nFace := 2, nNode := 4, nEdge := 5, gid := 1 }
/-- a rank-3 face-centred variable on the 2-face grid `g2` (shape 2×1×2) -/
def x3 : Arr Nat :=
  { dims := [Dim.other 0, Dim.other 1, Dim.face], shape := [2, 1, 2], data := [1, 2, 3, 4],
    name := some 3, grid := 1 }
def y3 : Arr Nat := { x3 with data := [10, 20, 30, 40] }

example : FaceCentred g2 x3 ∧ FaceCentred g2 y3 ∧ x3.shape = y3.shape := by decide
example : integrate g2 [5, 7] x3 =
    .ok { dims := [Dim.other 0, Dim.other 1], shape := [2, 1], data := [19, 43],
          name := some 3, grid := 1 } := by decide
example : integrate g2 [5, 7] (addA x3 y3) = .ok (addA (result [5, 7] x3) (result [5, 7] y3)) := by
  decide
example : integrate g2 [5, 7] (smulA 3 x3) = .ok (smulA 3 (result [5, 7] x3)) := by decide
example : integrate g2 [5, 7] (constA 1 [Dim.other 0, Dim.face] [3, 2] none 1) =
    .ok (constA 12 [Dim.other 0] [3] none 1) := by decide
example : InShape x3.shape.dropLast [1, 0] ∧ ravel x3.shape.dropLast [1, 0] = 1 ∧
    ravel x3.shape [1, 0, 1] = 3 := by decide
example : [1, 0].Perm (List.range g2.nFace) ∧
    integrate g2 (reindex [1, 0] [5, 7]) (permA [1, 0] 2 2 x3) = integrate g2 [5, 7] x3 := by
  decide
example : NodeOrEdge tetraNodeData := by decide
-- dispatch by name: the same array on grids that differ only in node/edge counts
example : integrate { nFace := 2, nNode := 2, nEdge := 2, gid := 9 } [5, 7] x3 = integrate g2 [5, 7] x3 := by
  decide
-- non-grid names are rejected for every length, also the face count
example : (∃ e, integrate g2 [5, 7] { x3 with dims := [Dim.other 0, Dim.other 1, Dim.other 2] } = .error e) :=
  ⟨.other, by decide⟩
-- the partial theorem's hypotheses are satisfiable (prism-like counts 2/4/5, node-sized unnamed data)
example : g2.nNode ≠ g2.nFace ∧ g2.nEdge ≠ g2.nFace ∧
    SizedUnnamed g2 ({ dims := [Dim.other 3], shape := [4], data := [1, 2, 3, 4], name := none, grid := 1 } : Arr Nat) := by
  decide
example : (∃ e, integrate tetra [1, 1, 1, 1] tetraNodeData = .error e) := ⟨.node, by decide⟩

/-! ## the default arguments (regenerated from `inspect.signature` on every run) -/

/-- `integrate()` with no arguments weights by the same areas as `compute_face_areas()` with no
    arguments: the two defaults coincide, so "integrating the constant 1 gives the grid's total
    area" refers to one and the same rule. -/
theorem integrate_default_rule_eq_area_default :
    Gen.Defaults.integrate_quadrature_rule = Gen.Defaults.compute_face_areas_quadrature_rule ∧
    Gen.Defaults.integrate_order = Gen.Defaults.compute_face_areas_order ∧
    Gen.Defaults.integrate_quadrature_rule = Gen.Defaults.calculate_total_face_area_quadrature_rule ∧
    Gen.Defaults.integrate_order = Gen.Defaults.calculate_total_face_area_order := by
  decide

end UxVerif.C06
