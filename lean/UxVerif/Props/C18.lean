/-
  C18 — The dual mesh swaps nodes and faces with correct ring order.

  Theorems about the models of `construct_faces` / `_order_nodes` (uxarray/grid/dual.py) and of the
  data side of `UxDataArray.get_dual`, for every node-face table and every key type with a strict
  total comparison.  In the order of the file:
    * which rows exist, in any schedule of the node loop: `construct_eq_kept`, `dual_face_count`,
      `construct_faces_schedule_independent`;
    * selection by key is sorting: `ring_of_monotone_keys`, `order_is_sort`, `order_entries`;
    * rows are the node's faces; the prefix gather of the code as found loses a face on rows padded
      in the middle: `model_meets_discrete_spec`, `asis_prefix_gather_drops_face`;
    * closed grids and the data side: `dual_row_of_node`, `dual_data_identity`, `dual_dims_swap`;
    * the side test: `side_sign_ccw`;
    * exact witness of the chord-angle key of the code as found: `asis_chord_angle_misorders`,
      `asis_order_wrong_ring`;
    * over ℝ, under general position only, the ring is counter-clockwise: `model_row_ccw`
      (resting on `Lemmas/DualCcw`);
    * radius invariance of the repaired key, and a unit-normal projection that lacks it:
      `order_scale_invariant`, `asis_unit_normal_helper_wrong`.

  NOT proved (tested by the harness, judged by the Lean driver): that the face centres around a
  node are angularly ordered like the face ring (mesh geometry); IEEE rounding (the theorems about
  the key are over exact reals).
-/
import UxVerif.Lemmas.Dual
import UxVerif.Lemmas.DualCcw
import Mathlib.Tactic.NormNum.RealSqrt

namespace UxVerif.C18
open UxVerif UxVerif.Dual UxVerif.Incidence

/-! ## `construct_faces`: which rows exist, in any schedule -/

/-- **the `correction` bookkeeping**: the pre-allocated table, overwritten at `i - correction`,
    is exactly the list of rows of the nodes with at least three faces, in node order. -/
theorem construct_eq_kept (rowOf : Nat → Nat → List Int → List Int) (NF : Table) :
    constructFaces rowOf NF
      = (keptNodes NF).map (fun i => rowOf (NF.headD []).length i (rowAt NF i)) := by
  rw [constructFaces_eq_sched, keptNodes_eq]
  unfold constructFacesSched
  rw [countP_eq_keptBefore]
  exact (sched_range rowOf NF _ _ NF.length NF.length (Nat.le_refl _)).trans
    (by rw [Nat.sub_self]; exact List.append_nil _)

/-- **one dual face per primal node surrounded by at least three faces** -/
theorem dual_face_count (rowOf : Nat → Nat → List Int → List Int) (NF : Table) :
    (constructFaces rowOf NF).length = NF.countP (fun r => decide (3 ≤ valence r)) := by
  rw [construct_eq_kept, List.length_map]
  rw [keptNodes_eq, ← keptBefore_eq]
  exact (countP_eq_keptBefore NF).symm

example : (constructFaces (fun W _ r => r.take W) [[0, 1, 2], [0, 1, FILL], [3, 4, 5]]).length = 2 := by
  decide +kernel

/-- row `j` of the dual table depends only on the `j`-th kept node
    (its index and its own row of `node_face_connectivity`), on nothing computed for other nodes. -/
theorem construct_faces_row_local (rowOf : Nat → Nat → List Int → List Int) (NF : Table) (j : Nat) :
    (constructFaces rowOf NF)[j]?
      = ((keptNodes NF)[j]?).map (fun i => rowOf (NF.headD []).length i (rowAt NF i)) := by
  rw [construct_eq_kept, List.getElem?_map]

/-- **any schedule gives the same table**: if every node writes its row at `keptBefore NF i` (the
    number of kept nodes before it — a function of the input, not a loop-carried counter), the
    iterations may run in ANY order (`order` any permutation of the node numbers) and the result is
    the table of the sequential loop with its `correction` counter. -/
theorem construct_faces_schedule_independent (rowOf : Nat → Nat → List Int → List Int) (NF : Table)
    (order : List Nat) (hperm : order.Perm (List.range NF.length)) :
    constructFacesSched rowOf NF order = constructFaces rowOf NF :=
  (hperm.foldl_eq' (fun i _ j _ T => schedStep_comm rowOf NF _ T i j) _).trans
    (constructFaces_eq_sched rowOf NF).symm

/-- non-vacuity: three orders of the four nodes of a table with a skipped node -/
example :
    let NF : Table := [[4, 2, 9, FILL], [1, 2, FILL, FILL], [3, 8, 5, 6], [7, 5, 1, FILL]]
    let rowOf := dualRow (fun a b : Int => decide (a < b)) 0 100 (fun _ _ f => f)
    constructFacesSched rowOf NF [3, 1, 0, 2] = constructFaces rowOf NF ∧
    constructFacesSched rowOf NF [2, 3, 1, 0] = constructFaces rowOf NF ∧
    constructFaces rowOf NF = [[4, 2, 9, FILL], [3, 5, 6, 8], [7, 1, 5, FILL]] := by
  intro NF rowOf
  exact ⟨construct_faces_schedule_independent rowOf NF _ (by decide),
    construct_faces_schedule_independent rowOf NF _ (by decide), by decide +kernel⟩

/-! ## `_order_nodes`: selection by key is sorting -/

/-- **the ring, if the keys increase along it.**  If `first :: R` is ANY arrangement of the items
    along which the keys increase strictly (e.g. the true counter-clockwise ring of faces, when the
    centres are angularly ordered like it), the loop returns exactly `first :: R`, whatever order
    the items came in. -/
theorem ring_of_monotone_keys {K : Type} {lt : K → K → Bool} (h : StrictOrder lt) (zero twoPi : K)
    (W : Nat) (first : Int) (items R : List (K × Int)) (hperm : R.Perm items)
    (hmono : R.Pairwise (fun a b => lt a.1 b.1 = true))
    (hrange : ∀ x ∈ items, lt zero x.1 = true ∧ lt x.1 twoPi = true) :
    orderNodes lt zero twoPi W first items
      = first :: R.map (·.2) ++ List.replicate (W - (items.length + 1)) FILL := by
  have hsteps := steps_eq_of_sorted h twoPi items (fun x hx => (hrange x hx).2) R zero hmono
    fun x => ⟨fun hx => ⟨hperm.mem_iff.mp hx, (hrange x (hperm.mem_iff.mp hx)).1⟩,
      fun hx => hperm.mem_iff.mpr hx.1⟩
  rw [hperm.length_eq] at hsteps
  unfold orderNodes
  simp only [hsteps, List.length_cons, List.length_map, hperm.length_eq, List.cons_append]

/-- **order_is_sort.**  For every list of `(key, value)` items (ANY length) whose keys are pairwise
    distinct and lie strictly between `zero` and `twoPi`, the loop returns the first entry, then
    the values sorted by key (a permutation of the input), then only padding. -/
theorem order_is_sort {K : Type} {lt : K → K → Bool} (h : StrictOrder lt) (zero twoPi : K)
    (W : Nat) (first : Int) (items : List (K × Int))
    (hkeys : items.Pairwise (fun a b => a.1 ≠ b.1))
    (hrange : ∀ x ∈ items, lt zero x.1 = true ∧ lt x.1 twoPi = true) :
    orderNodes lt zero twoPi W first items
        = first :: (sortByKey lt items).map (·.2) ++ List.replicate (W - (items.length + 1)) FILL
      ∧ (sortByKey lt items).Perm items
      ∧ (sortByKey lt items).Pairwise (fun a b => lt a.1 b.1 = true) :=
  have hperm := sortByKey_perm (lt := lt) items
  have hsorted := sortByKey_sorted h items hkeys
  ⟨ring_of_monotone_keys h zero twoPi W first items _ hperm hsorted hrange, hperm, hsorted⟩

/-- `order_is_sort` for the items `(key f, f)` of a node's faces, in the form the row theorems use:
    the row is padded only at the end and its entries are `first :: S`, with `S` the other faces in
    increasing key order -/
theorem orderNodes_keyed {K : Type} {lt : K → K → Bool} (h : StrictOrder lt) (zero twoPi : K)
    (W : Nat) (first : Int) (rest : List Int) (key : Int → K)
    (hfirst : first ≠ FILL) (hrest : ∀ f ∈ rest, f ≠ FILL)
    (hkeys : (rest.map key).Pairwise (· ≠ ·))
    (hrange : ∀ f ∈ rest, lt zero (key f) = true ∧ lt (key f) twoPi = true) :
    ∃ S : List Int, S.Perm rest ∧ S.Pairwise (fun f g => lt (key f) (key g) = true) ∧
      EndPadded (orderNodes lt zero twoPi W first (rest.map (fun f => (key f, f)))) ∧
      real (orderNodes lt zero twoPi W first (rest.map (fun f => (key f, f)))) = first :: S := by
  obtain ⟨hout, hperm, hsorted⟩ := order_is_sort h zero twoPi W first
    (rest.map (fun f => (key f, f))) (List.pairwise_map.mpr (List.pairwise_map.mp hkeys))
    (List.forall_mem_map.mpr hrange)
  have hvals : ((sortByKey lt (rest.map (fun f => (key f, f)))).map (·.2)).Perm rest := by
    have := hperm.map (·.2)
    rwa [List.map_map, show ((·.2) ∘ fun f => (key f, f)) = id from rfl, List.map_id] at this
  have hbody : ∀ x ∈ first :: (sortByKey lt (rest.map (fun f => (key f, f)))).map (·.2),
      x ≠ FILL :=
    List.forall_mem_cons.mpr ⟨hfirst, fun x hx => hrest x (hvals.mem_iff.mp hx)⟩
  refine ⟨_, hvals, ?_, ?_⟩
  · -- a sorted item is still some `(key f, f)`
    rw [List.pairwise_map]
    refine hsorted.imp_of_mem ?_
    intro a b ha hb hab
    obtain ⟨f, _, rfl⟩ := List.mem_map.mp (hperm.mem_iff.mp ha)
    obtain ⟨g, _, rfl⟩ := List.mem_map.mp (hperm.mem_iff.mp hb)
    exact hab
  · rw [hout]
    exact ⟨endPadded_append_fill _ _ hbody, real_append_fill _ _ hbody⟩

/-- every entry the loop writes is the first entry, one of the items, or padding — with no
    hypothesis on the keys at all (ties, NaN-like keys: entries may be dropped, never invented) -/
theorem order_entries {K : Type} (lt : K → K → Bool) (zero twoPi : K) (W : Nat) (first : Int)
    (items : List (K × Int)) :
    ∀ x ∈ orderNodes lt zero twoPi W first items,
      x = first ∨ x = FILL ∨ x ∈ items.map (·.2) := by
  intro x hx
  unfold orderNodes at hx
  simp only [List.cons_append, List.mem_cons, List.mem_append] at hx
  rcases hx with rfl | hx | hx
  · exact Or.inl rfl
  · exact Or.inr (steps_mem twoPi items _ _ x hx)
  · exact Or.inr (Or.inl (List.mem_replicate.mp hx).2)

/-- non-vacuity: five faces, keys in scrambled order, width 8 -/
example : orderNodes (fun a b : Int => decide (a < b)) 0 360 8 7
    [(250, 1), (40, 2), (300, 3), (90, 4)] = [7, 2, 4, 1, 3, FILL, FILL, FILL] := by decide +kernel

/-- as the code stands: two equal keys (coincident directions) lose an entry — outside the
    hypothesis `hkeys` of `order_is_sort`, and harmless only because it cannot happen on a valid mesh -/
example : orderNodes (fun a b : Int => decide (a < b)) 0 360 4 7
    [(40, 1), (40, 2), (90, 3)] = [7, 1, 3, FILL] := by decide +kernel

theorem intLt_strictOrder : StrictOrder (fun a b : Int => decide (a < b)) where
  irrefl := by intro a; simp
  trans := by intro a b c h1 h2; simp only [decide_eq_true_eq] at *; omega
  total := by intro a b; simp only [decide_eq_true_eq]; omega

/-! ## rows of the dual table; the prefix gather of the code as found -/

/-- the precondition on one kept node: the keys of its faces (other than the first) are distinct
    and strictly inside `(zero, twoPi)`.  Nothing is assumed about where the padding of the
    `node_face_connectivity` row sits. -/
def NodeOK {K : Type} (lt : K → K → Bool) (zero twoPi : K) (keyOf : Nat → Int → Int → K)
    (NF : Table) (i : Nat) : Prop :=
  ∀ first rest, real (rowAt NF i) = first :: rest →
    (rest.map (keyOf i first)).Pairwise (· ≠ ·) ∧
    ∀ f ∈ rest, lt zero (keyOf i first f) = true ∧ lt (keyOf i first f) twoPi = true

/-- **each dual face's corners are exactly the primal faces meeting at the node (padding of the
    node's row ANYWHERE), the first one kept in place, the others sorted by key, padding only at
    the end.** -/
theorem dual_rows_are_node_faces {K : Type} {lt : K → K → Bool} (h : StrictOrder lt)
    (zero twoPi : K) (keyOf : Nat → Int → Int → K) (NF : Table) (W i : Nat)
    (hv : 3 ≤ valence (rowAt NF i)) (hok : NodeOK lt zero twoPi keyOf NF i) :
    RowOK (rowAt NF i) (dualRow lt zero twoPi keyOf W i (rowAt NF i)) ∧
    (dualRow lt zero twoPi keyOf W i (rowAt NF i)).head? = (real (rowAt NF i)).head? := by
  have hne := real_ne_fill (rowAt NF i)
  cases hreal : real (rowAt NF i) with
  | nil =>
    have : valence (rowAt NF i) = 0 := by unfold valence; unfold real at hreal; rw [hreal]; rfl
    omega
  | cons first rest =>
    obtain ⟨hdist, hrange⟩ := hok first rest hreal
    obtain ⟨S, hS, _, hep, hrl⟩ := orderNodes_keyed h zero twoPi W first rest (keyOf i first)
      (hne first (by rw [hreal]; exact List.mem_cons_self))
      (fun f hf => hne f (by rw [hreal]; exact List.mem_cons_of_mem _ hf)) hdist hrange
    rw [dualRow_of_real lt zero twoPi keyOf W i hreal]
    exact ⟨⟨hep, by rw [hrl, hreal]; exact hS.cons first⟩, rfl⟩

/-- the gather of the code as found (`nfc[i][0:n_edges[i]]`) agrees with the repaired one exactly
    on rows padded at the end — the hypothesis the snapshot silently relied on -/
theorem gather_asis_eq_of_endPadded (r : List Int) (h : EndPadded r) :
    gatherRow false r = gatherRow true r := by
  unfold gatherRow
  simp only [Bool.false_eq_true, if_false, if_true]
  exact take_valence_of_endPadded r h

theorem dualRow_asis_eq_of_endPadded {K : Type} (lt : K → K → Bool) (zero twoPi : K)
    (keyOf : Nat → Int → Int → K) (W i : Nat) (r : List Int) (h : EndPadded r) :
    dualRowWith false lt zero twoPi keyOf W i r = dualRow lt zero twoPi keyOf W i r := by
  unfold dualRow dualRowWith
  rw [gather_asis_eq_of_endPadded r h]

/-- **as found, a row with padding in the middle loses a face** (a source-supplied
    `node_face_connectivity`, e.g. MPAS `cellsOnVertex` of a regional mesh): node with faces
    6, 7, 8 stored as `[6, FILL, 7, 8]` — the prefix gather reads `[6, FILL, 7]`, face 8 is lost. -/
theorem asis_prefix_gather_drops_face :
    dualRowWith false (fun a b : Int => decide (a < b)) 0 100 (fun _ _ f => f) 4 0 [6, FILL, 7, 8]
        = [6, 7, FILL, FILL] ∧
    ¬ RowOK [6, FILL, 7, 8]
        (dualRowWith false (fun a b : Int => decide (a < b)) 0 100 (fun _ _ f => f) 4 0 [6, FILL, 7, 8]) ∧
    RowOK [6, FILL, 7, 8]
        (dualRow (fun a b : Int => decide (a < b)) 0 100 (fun _ _ f => f) 4 0 [6, FILL, 7, 8]) := by
  decide +kernel

/-- **the model meets the discrete specification**: for EVERY node-face table in which the kept
    nodes meet `NodeOK`, the table built by `construct_faces` has one row per node of valence ≥ 3
    and every row is exactly that node's faces with padding only at the end. -/
theorem model_meets_discrete_spec {K : Type} {lt : K → K → Bool} (h : StrictOrder lt)
    (zero twoPi : K) (keyOf : Nat → Int → Int → K) (NF : Table)
    (hok : ∀ i ∈ keptNodes NF, NodeOK lt zero twoPi keyOf NF i) :
    DiscreteSpec NF (constructFaces (dualRow lt zero twoPi keyOf) NF) := by
  rw [construct_eq_kept]
  refine ⟨by unfold CountOK; rw [List.length_map], ?_⟩
  unfold RowsOK
  rw [zip_map_self, List.forall_mem_map]
  intro i hi
  have hv : 3 ≤ valence (rowAt NF i) := by simpa using (List.mem_filter.mp hi).2
  exact (dual_rows_are_node_faces h zero twoPi keyOf NF _ i hv (hok i hi)).1

/-- the specification evaluated on a table with a skipped node, keys = face number -/
example : DiscreteSpec [[4, 2, 9, FILL], [1, 2, FILL, FILL], [3, 8, 5, 6]]
    (constructFaces (dualRow (fun a b : Int => decide (a < b)) 0 100 (fun _ _ f => f))
      [[4, 2, 9, FILL], [1, 2, FILL, FILL], [3, 8, 5, 6]]) := by decide +kernel

example : constructFaces (dualRow (fun a b : Int => decide (a < b)) 0 100 (fun _ _ f => f))
      [[4, 2, 9, FILL], [1, 2, FILL, FILL], [3, 8, 5, 6]]
    = [[4, 2, 9, FILL], [3, 5, 6, 8]] := by decide +kernel

/-! ## closed grids and the data side -/

theorem kept_all_of_closed (NF : Table) (hall : ∀ i, i < NF.length → 3 ≤ valence (rowAt NF i)) :
    keptNodes NF = List.range NF.length := by
  unfold keptNodes
  rw [List.filter_eq_self]
  intro i hi
  simpa using hall i (List.mem_range.mp hi)

/-- closed grid (every node kept): dual face `k` is node `k`, so node-centred data need no
    permutation -/
theorem dual_row_of_node (rowOf : Nat → Nat → List Int → List Int) (NF : Table)
    (hall : ∀ i, i < NF.length → 3 ≤ valence (rowAt NF i)) (k : Nat) (hk : k < NF.length) :
    (constructFaces rowOf NF)[k]? = some (rowOf (NF.headD []).length k (rowAt NF k)) := by
  rw [construct_eq_kept, kept_all_of_closed NF hall]
  simp [hk]

/-- **values unchanged and unpermuted** -/
theorem dual_data_identity {α : Type} (dims : List Nat) (values : List α) :
    (dualData dims values).2 = values := rfl

theorem swapDim_involutive (d : Nat) : swapDim (swapDim d) = d := by
  unfold swapDim
  by_cases h2 : d = 2
  · simp [h2]
  · by_cases h0 : d = 0
    · simp [h0]
    · simp [h2, h0]

/-- face-centred becomes node-centred, node-centred becomes face-centred, everything else stays -/
theorem dual_dims_swap : swapDim 2 = 0 ∧ swapDim 0 = 2 ∧ ∀ d, d ≠ 0 → d ≠ 2 → swapDim d = d := by
  refine ⟨rfl, rfl, ?_⟩
  intro d h0 h2
  simp [swapDim, h0, h2]

theorem dual_dims_length (dims : List Nat) {α : Type} (values : List α) :
    (dualData dims values).1.length = dims.length := by
  simp [dualData]

example : dualData [7, 2, 9] [1.5, 2.5] = ([7, 0, 9], [1.5, 2.5]) := rfl

/-! ## the side test and the tangent projection (restating `Lemmas/DualCcw` for the property) -/

section algebra
variable {K : Type} [CommRing K]

/-- **side_sign_ccw**: `d_side = (n₀ × c)·d` equals `−c·(t₀ × d)` with `t₀ = n₀ − c`: it is positive
    exactly when `d` lies clockwise of `t₀` seen from outside, which is when the code reflects the
    angle to `2π − θ`.  So the reflected angle increases counter-clockwise.  (`Dual.side_eq_neg_tri`) -/
theorem side_sign_ccw (c n0 d : V3 K) : side c n0 d = - tri c (n0.sub c) d := side_eq_neg_tri c n0 d

end algebra

section field
variable {K : Type} [Field K]

/-- the side test is unchanged by the tangent projection of the repaired algorithm
    (`Dual.side_radial` at the projection) -/
theorem side_tproj (c n0 d : V3 K) : side c n0 (tproj c d) = side c n0 d := side_radial c n0 d _

/-- so is the triple product (restates `Dual.tri_tproj`) -/
theorem tri_tproj (c a b : V3 K) : tri c (tproj c a) (tproj c b) = tri c a b := Dual.tri_tproj c a b

/-- the projection is tangent at `c` (restates `Dual.tproj_tangent`) -/
theorem tproj_orth (c v : V3 K) (hc : dot c c ≠ 0) : dot (tproj c v) c = 0 := tproj_tangent c v hc

example : side (⟨0, 0, 1⟩ : V3 ℚ) ⟨1, 0, 1⟩ ⟨0, 1, 0⟩ = -1 := by
  simp only [side, dot, cross]; norm_num

end field

/-! ## exact witness: the chord-angle key of the code as found misorders, the repaired key does not

  Exact unit vectors: node `c` at the pole, first centre `n0` at azimuth 0° (20.8° away), `s1` at
  azimuth 126.87° (cos = −3/5, 20.8° away), `s2` at azimuth 143.13° (cos = −4/5, 73.7° away).
  Counter-clockwise order from `n0` is `s1, s2`.  The chord-angle key of the snapshot puts `s2` first. -/

noncomputable def wc : V3 ℝ := ⟨0, 0, 1⟩
noncomputable def wn0 : V3 ℝ := ⟨720/1681, 0, 1519/1681⟩
noncomputable def ws1 : V3 ℝ := ⟨-432/1681, 576/1681, 1519/1681⟩
noncomputable def ws2 : V3 ℝ := ⟨-96/125, 72/125, 7/25⟩

theorem dot_wc : dot wc wc = 1 := by simp only [dot, wc]; norm_num

theorem wc_ne : dot wc wc ≠ 0 := by rw [dot_wc]; exact one_ne_zero

/-- the as-found keys of the witness in closed form -/
theorem key_asis : keyWith realNum false wc wn0 ws1 = Real.arccos (-879/1681) ∧
    keyWith realNum false wc wn0 ws2 = Real.arccos (-101/205) := by
  constructor <;>
  · simp only [keyWith, keyOfVecs, side, Dual.norm, dot, cross, V3.sub, realNum, wc, wn0, ws1, ws2,
      Bool.false_eq_true, if_false, Bool.false_and]
    norm_num

/-- `s1` and `s2` lie counter-clockwise of `n0`, and `s2` counter-clockwise of `s1` -/
theorem witness_tri_pos :
    0 < tri wc (wn0.sub wc) (ws1.sub wc) ∧ 0 < tri wc (ws1.sub wc) (ws2.sub wc) ∧
    0 < tri wc (wn0.sub wc) (ws2.sub wc) := by
  refine ⟨?_, ?_, ?_⟩ <;>
  · simp only [tri, dot, cross, V3.sub, wc, wn0, ws1, ws2]
    norm_num

theorem witness_asis_lt :
    keyWith realNum false wc wn0 ws2 < keyWith realNum false wc wn0 ws1 := by
  rw [key_asis.1, key_asis.2]
  exact Real.arccos_lt_arccos (by norm_num) (by norm_num) (by norm_num)

/-- the repaired key orders like the comparator: same half turn, `s2` counter-clockwise of `s1` -/
theorem witness_repaired_lt :
    keyWith realNum true wc wn0 ws1 < keyWith realNum true wc wn0 ws2 :=
  (keyWith_lt_iff wc wn0 ws1 ws2 wc_ne (halfOf_of_tri_pos witness_tri_pos.1)
    (halfOf_of_tri_pos witness_tri_pos.2.2) fun _ => witness_tri_pos.2.1.ne').mpr
      (Or.inr ⟨rfl, witness_tri_pos.2.1⟩)

/-- **as found, the key is not monotone in the azimuth**: all four points are unit vectors, `s1` and
    `s2` lie counter-clockwise of `n0` and `s2` counter-clockwise of `s1` (all three triple products
    positive, so 0 < az(s1) < az(s2) < π), yet the snapshot's key orders `s2` BEFORE `s1`; the repaired
    key (tangent-plane angle) orders them correctly. -/
theorem asis_chord_angle_misorders :
    dot wc wc = 1 ∧ dot wn0 wn0 = 1 ∧ dot ws1 ws1 = 1 ∧ dot ws2 ws2 = 1 ∧
    0 < tri wc (wn0.sub wc) (ws1.sub wc) ∧ 0 < tri wc (ws1.sub wc) (ws2.sub wc) ∧
    0 < tri wc (wn0.sub wc) (ws2.sub wc) ∧
    keyWith realNum false wc wn0 ws2 < keyWith realNum false wc wn0 ws1 ∧
    keyWith realNum true wc wn0 ws1 < keyWith realNum true wc wn0 ws2 := by
  refine ⟨dot_wc, ?_, ?_, ?_, witness_tri_pos.1, witness_tri_pos.2.1, witness_tri_pos.2.2,
    witness_asis_lt, witness_repaired_lt⟩
  · simp only [dot, wn0]; norm_num
  · simp only [dot, ws1]; norm_num
  · simp only [dot, ws2]; norm_num

/-- two items with keys in range come out in key order, whichever way round they are given
    (both rings of `asis_order_wrong_ring`) -/
theorem orderNodes_pair {K : Type} {lt : K → K → Bool} (h : StrictOrder lt) (zero twoPi : K)
    (first a b : Int) (ka kb : K) (hab : lt ka kb = true)
    (hra : lt zero ka = true ∧ lt ka twoPi = true) (hrb : lt zero kb = true ∧ lt kb twoPi = true) :
    orderNodes lt zero twoPi 3 first [(ka, a), (kb, b)] = [first, a, b] ∧
    orderNodes lt zero twoPi 3 first [(kb, b), (ka, a)] = [first, a, b] := by
  have hmono : [(ka, a), (kb, b)].Pairwise (fun x y => lt x.1 y.1 = true) := by simp [hab]
  constructor
  · exact ring_of_monotone_keys h zero twoPi 3 first _ _ (List.Perm.refl _) hmono (by simp [hra, hrb])
  · exact ring_of_monotone_keys h zero twoPi 3 first _ _ (List.Perm.swap _ _ _) hmono (by simp [hra, hrb])

/-- consequently `_order_nodes` as found returns the ring `n0, s2, s1` for these centres, whatever
    order they are given in, while the repaired algorithm returns `n0, s1, s2` -/
theorem asis_order_wrong_ring :
    orderNodes realNum.lt 0 realNum.twoPi 3 0
        [(keyWith realNum false wc wn0 ws1, 1), (keyWith realNum false wc wn0 ws2, 2)] = [0, 2, 1] ∧
    orderNodes realNum.lt 0 realNum.twoPi 3 0
        [(keyWith realNum true wc wn0 ws1, 1), (keyWith realNum true wc wn0 ws2, 2)] = [0, 1, 2] := by
  obtain ⟨t1, _, t2⟩ := witness_tri_pos
  have rng : ∀ x : ℝ, x < 1 → realNum.lt 0 (Real.arccos x) = true ∧
      realNum.lt (Real.arccos x) realNum.twoPi = true := by
    intro x hx
    simp only [realNum, decide_eq_true_eq]
    exact ⟨Real.arccos_pos.mpr hx, (Real.arccos_le_pi x).trans_lt (lt_two_mul_self Real.pi_pos)⟩
  constructor
  · exact (orderNodes_pair realNum_strictOrder 0 realNum.twoPi 0 2 1 _ _
      (by simpa [realNum] using witness_asis_lt) (by rw [key_asis.2]; exact rng _ (by norm_num))
      (by rw [key_asis.1]; exact rng _ (by norm_num))).2
  · exact (orderNodes_pair realNum_strictOrder 0 realNum.twoPi 0 1 2 _ _
      (by simpa [realNum] using witness_repaired_lt)
      (keyWith_range wc wn0 ws1 wc_ne (by rw [halfOf_of_tri_pos t1]; exact Option.some_ne_none _))
      (keyWith_range wc wn0 ws2 wc_ne (by rw [halfOf_of_tri_pos t2]; exact Option.some_ne_none _))).1

/-! ## the ring of the repaired algorithm is counter-clockwise -/

/-- general position: seen from the node, every other centre lies in a defined half turn
  counter-clockwise from the first one (none has a vanishing tangent part or the direction of the
  first centre), and no two centres lie in the same direction.  Nothing else is assumed: no bound on the valence, no
  distinct-angle or range hypothesis — those follow (`keyWith_range`, `key_ne_of_before`). -/
def GenPos (c : V3 ℝ) (cents : List (V3 ℝ)) (first : Int) (rest : List Int) : Prop :=
  (∀ f ∈ rest, halfOf realNum 0 c ((vecAt cents first).sub c) ((vecAt cents f).sub c) ≠ none) ∧
  (∀ f ∈ rest, ∀ g ∈ rest, f ≠ g →
    before realNum 0 c ((vecAt cents first).sub c) ((vecAt cents f).sub c) ((vecAt cents g).sub c) ≠ none)

/-- **the ring returned by the repaired `_order_nodes` is counter-clockwise** in the sense of the
    specification's own predicate `ccwSorted` (margin 0, exact reals), and is a permutation of the
    node's faces — for ANY number of faces around the node, under general position only. -/
theorem model_row_ccw (c : V3 ℝ) (cents : List (V3 ℝ)) (first : Int) (rest : List Int) (W : Nat)
    (hc : dot c c ≠ 0) (hnd : rest.Nodup) (hfirst : first ≠ FILL) (hrest : ∀ f ∈ rest, f ≠ FILL)
    (hgp : GenPos c cents first rest) :
    ccwSorted realNum 0 c cents (real (orderNodes realNum.lt 0 realNum.twoPi W first
        (rest.map (fun f => (keyWith realNum true c (vecAt cents first) (vecAt cents f), f)))))
      = some true ∧
    (real (orderNodes realNum.lt 0 realNum.twoPi W first
        (rest.map (fun f => (keyWith realNum true c (vecAt cents first) (vecAt cents f), f))))).Perm
      (first :: rest) := by
  obtain ⟨S, hS, hkeys, _, hrl⟩ := orderNodes_keyed realNum_strictOrder 0 realNum.twoPi W first rest
    (fun f => keyWith realNum true c (vecAt cents first) (vecAt cents f)) hfirst hrest
    (by
      rw [List.pairwise_map]
      exact hnd.imp_of_mem fun hf hg hne => key_ne_of_before c _ _ _ hc (hgp.2 _ hf _ hg hne))
    (fun f hf => keyWith_range c _ _ hc (hgp.1 f hf))
  rw [hrl]
  refine ⟨ccwSorted_of c cents first S (fun f hf => hgp.1 f (hS.mem_iff.mp hf))
    (hkeys.imp_of_mem ?_), hS.cons first⟩
  -- a face with the smaller key is a different face, so the comparator decides and puts it first
  intro f g hf hg hlt
  have hlt := of_decide_eq_true hlt
  exact (key_lt_iff_before c _ _ _ hc (hgp.2 f (hS.mem_iff.mp hf) g (hS.mem_iff.mp hg)
    fun he => lt_irrefl _ (he ▸ hlt))).mp hlt

/-- non-vacuity of `GenPos` / `model_row_ccw`: the exact witness centres, given in the wrong order -/
theorem genPos_witness : GenPos wc [wn0, ws1, ws2] 0 [2, 1] := by
  obtain ⟨t1, t12, t2⟩ := witness_tri_pos
  have h1 : halfOf realNum 0 wc ((vecAt [wn0, ws1, ws2] 0).sub wc) ((vecAt [wn0, ws1, ws2] 1).sub wc)
      = some 0 := halfOf_of_tri_pos t1
  have h2 : halfOf realNum 0 wc ((vecAt [wn0, ws1, ws2] 0).sub wc) ((vecAt [wn0, ws1, ws2] 2).sub wc)
      = some 0 := halfOf_of_tri_pos t2
  constructor
  · intro f hf
    simp only [List.mem_cons, List.not_mem_nil, or_false] at hf
    rcases hf with rfl | rfl
    · rw [h2]; exact Option.some_ne_none _
    · rw [h1]; exact Option.some_ne_none _
  · intro f hf g hg hne
    simp only [List.mem_cons, List.not_mem_nil, or_false] at hf hg
    rcases hf with rfl | rfl <;> rcases hg with rfl | rfl
    · exact absurd rfl hne
    · exact before_ne_none_iff.mpr ⟨0, 0, h2, h1, fun _ => by
        rw [tri_swap]; exact neg_ne_zero.mpr t12.ne'⟩
    · exact before_ne_none_iff.mpr ⟨0, 0, h1, h2, fun _ => t12.ne'⟩
    · exact absurd rfl hne

example : ccwSorted realNum 0 wc [wn0, ws1, ws2] (real (orderNodes realNum.lt 0 realNum.twoPi 4 0
    ([2, 1].map (fun f => (keyWith realNum true wc (vecAt [wn0, ws1, ws2] 0) (vecAt [wn0, ws1, ws2] f), f)))))
    = some true :=
  (model_row_ccw wc [wn0, ws1, ws2] 0 [2, 1] 4 wc_ne (by decide) (by decide)
    (by decide) genPos_witness).1

/-! ## radius invariance of the repaired key; a unit-normal projection lacks it -/

theorem dot_smul_left (k : ℝ) (a b : V3 ℝ) : dot (V3.smul k a) b = k * dot a b := by
  simp only [dot, V3.smul]; ring

/-- **order_scale_invariant.**  For every central node `c ≠ 0`, first centre `n0`, centre `s` and all
    positive factors `a, b0, b`: the key computed from `a•c, b0•n0, b•s` equals the key computed from
    `c, n0, s`.  (Node coordinates at radius 6371229 with unit face centres, mixed radii, … all give
    the keys of the unit sphere, hence by `order_is_sort` the same ring.) -/
theorem order_scale_invariant (c n0 s : V3 ℝ) (a b0 b : ℝ) (ha : 0 < a) (hb0 : 0 < b0) (hb : 0 < b)
    (hc : dot c c ≠ 0) :
    keyWith realNum true (V3.smul a c) (V3.smul b0 n0) (V3.smul b s) = keyWith realNum true c n0 s := by
  unfold keyWith
  simp only [if_true]
  rw [tproj_scale c n0 a b0 ha.ne' hc, tproj_scale c s a b ha.ne' hc, side_scale]
  exact keyOfVecs_scale _ _ _ b0 b (a * b0 * b) hb0 hb (mul_pos (mul_pos ha hb0) hb)

/-- non-vacuity: the witness centres at Earth radius in metres, face centres left at unit length -/
example : keyWith realNum true (V3.smul 6371229 wc) wn0 ws1 < keyWith realNum true (V3.smul 6371229 wc) wn0 ws2 := by
  have h1 := order_scale_invariant wc wn0 ws1 6371229 1 1 (by norm_num) one_pos one_pos wc_ne
  have h2 := order_scale_invariant wc wn0 ws2 6371229 1 1 (by norm_num) one_pos one_pos wc_ne
  have e : ∀ v : V3 ℝ, V3.smul 1 v = v := by intro v; simp [V3.smul]
  rw [e, e] at h1 h2
  rw [h1, h2]
  exact witness_repaired_lt

/-- NOT the code as found: a tempting simplification of the projection (`tprojUnit`).
    **a projection helper that assumes a unit normal is wrong off the unit sphere**: the same four
    witness points scaled to radius 2 (still `s1` before `s2` counter-clockwise, and the repaired key
    still says so by `order_scale_invariant`); with `vec − (vec·c) c` the cosine of `s1` is negative
    and that of `s2` positive, so `s2` is put BEFORE `s1`. -/
theorem asis_unit_normal_helper_wrong :
    keyUnitHelper realNum (V3.smul 2 wc) (V3.smul 2 wn0) (V3.smul 2 ws2)
        < keyUnitHelper realNum (V3.smul 2 wc) (V3.smul 2 wn0) (V3.smul 2 ws1) ∧
    keyWith realNum true (V3.smul 2 wc) (V3.smul 2 wn0) (V3.smul 2 ws1)
        < keyWith realNum true (V3.smul 2 wc) (V3.smul 2 wn0) (V3.smul 2 ws2) := by
  constructor
  · unfold keyUnitHelper
    apply keyOfVecs_lt_of_signs
    · simp only [side, tprojUnit, dot, cross, V3.sub, V3.smul, wc, wn0, ws1]; norm_num
    · simp only [side, tprojUnit, dot, cross, V3.sub, V3.smul, wc, wn0, ws2]; norm_num
    · simp only [tprojUnit, dot, V3.sub, V3.smul, wc, wn0, ws1]; norm_num
    · simp only [tprojUnit, dot, V3.sub, V3.smul, wc, wn0, ws2]; norm_num
  · rw [order_scale_invariant wc wn0 ws1 2 2 2 two_pos two_pos two_pos wc_ne,
      order_scale_invariant wc wn0 ws2 2 2 2 two_pos two_pos two_pos wc_ne]
    exact witness_repaired_lt

end UxVerif.C18
