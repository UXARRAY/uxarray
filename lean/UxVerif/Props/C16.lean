/-
  C16 — Edge distances, differences and gradients follow the edge's own neighbours.
  Theorems about the models of `Model/EdgeOps.lean`, for every table and array.

  §A1 law of cosines = dot product = the `atan2` oracle (`lawcos_eq_dot`, `gcDist_eq_oracle`)
  §A2 ranges; `arctan(sin/cos)` is not the angle (`lawcos_mem_Icc`, `arctan_form_wrong`)
  §A3 conditioning of `arccos`, the float tolerance (`arccos_error_bound`)
  §A4 distances depend only on directions (`dirDist_scale_invariant`, `dirDist_xyz_eq_gcDist`)
  §B  index typing; the unrepaired `edge_face_distances` reads NODE arrays
      (`asis_edgeFaceDist_reads_nodes`, `asis_edge_face_dist_wrong`); MPAS tables
  §C  differences, gradients, normalisation, leading slices, result shape (`asis_normalize_*`)
  §D  reflection of the decidable specifications the driver evaluates
-/
import Mathlib.Analysis.SpecialFunctions.Trigonometric.Arctan
import UxVerif.Lemmas.EdgeOps

namespace UxVerif.C16
open UxVerif UxVerif.EdgeOps

/-! ## §A1 law of cosines = dot product = oracle -/

/-- **law of cosines = dot product**: `sin φ₁ sin φ₂ + cos φ₁ cos φ₂ cos(λ₁−λ₂)` is the dot
    product of the Cartesian unit vectors of the two points. -/
theorem lawcos_eq_dot (lon₁ lat₁ lon₂ lat₂ : ℝ) :
    lawcos realTrig lon₁ lat₁ lon₂ lat₂
      = dot3 (xyz realTrig lon₁ lat₁) (xyz realTrig lon₂ lat₂) := by
  simp only [lawcos, dot3, xyz, realTrig, Real.cos_sub]
  ring

theorem xyz_unit (lon lat : ℝ) : dot3 (xyz realTrig lon lat) (xyz realTrig lon lat) = 1 := by
  simp only [dot3, xyz, realTrig]
  have h1 := Real.sin_sq_add_cos_sq lon
  have h2 := Real.sin_sq_add_cos_sq lat
  linear_combination (Real.cos lat) ^ 2 * h1 + h2

/-- **the code's distance is the oracle's distance** (as real numbers): law of cosines +
    `arccos` equals the `atan2` form on the Cartesian unit vectors. -/
theorem gcDist_eq_oracle (lonA latA lonB latB : ℝ) :
    gcDist realTrig lonA latA lonB latB
      = oracleDist realTrig Real.sqrt realAtan2 lonA latA lonB latB := by
  unfold gcDist oracleDist
  rw [oracle_eq_arccos _ _ (xyz_unit _ _) (xyz_unit _ _), lawcos_eq_dot]
  rfl

/-- the distance does not depend on which end of the edge is listed first -/
theorem gcDist_symm (lonA latA lonB latB : ℝ) :
    gcDist realTrig lonA latA lonB latB = gcDist realTrig lonB latB lonA latA := by
  unfold gcDist
  rw [lawcos_eq_dot, lawcos_eq_dot, dot3_comm]

/-- an arc length lies in `[0, π]` -/
theorem gcDist_range (lonA latA lonB latB : ℝ) :
    0 ≤ gcDist realTrig lonA latA lonB latB ∧ gcDist realTrig lonA latA lonB latB ≤ Real.pi :=
  ⟨Real.arccos_nonneg _, Real.arccos_le_pi _⟩

theorem gcDist_self (lon lat : ℝ) : gcDist realTrig lon lat lon lat = 0 := by
  unfold gcDist
  rw [lawcos_eq_dot, xyz_unit]
  exact Real.arccos_one

/-- non-vacuity: a quarter of the equator -/
example : gcDist realTrig 0 0 90 0 = Real.pi / 2 := by
  rw [gcDist_equator 90 (by norm_num) (by norm_num)]
  ring

/-! ## §A2 ranges; `arctan(sin/cos)` is not the angle -/

/-- **the exact cosine never leaves `[-1, 1]`** — a `nan` from `arccos` can only come from rounding -/
theorem lawcos_mem_Icc (lon₁ lat₁ lon₂ lat₂ : ℝ) :
    -1 ≤ lawcos realTrig lon₁ lat₁ lon₂ lat₂ ∧ lawcos realTrig lon₁ lat₁ lon₂ lat₂ ≤ 1 := by
  have hsq := dot3_sq_le (xyz realTrig lon₁ lat₁) (xyz realTrig lon₂ lat₂)
  rw [xyz_unit, xyz_unit, mul_one, sq_le_one_iff_abs_le_one] at hsq
  rw [lawcos_eq_dot]
  exact abs_le.mp hsq

/-- clamping the cosine to `[-1, 1]` (the proposed repair of the antipodal `nan`) changes no
    exact value -/
theorem arccos_clamp_lawcos (lon₁ lat₁ lon₂ lat₂ : ℝ) :
    Real.arccos (min 1 (max (-1) (lawcos realTrig lon₁ lat₁ lon₂ lat₂)))
      = Real.arccos (lawcos realTrig lon₁ lat₁ lon₂ lat₂) := by
  obtain ⟨h1, h2⟩ := lawcos_mem_Icc lon₁ lat₁ lon₂ lat₂
  rw [max_eq_right h1, min_eq_right h2]

/-- **the oracle's angle lies in `[0, π]`** for every pair of vectors -/
theorem oracleAngle_range (a b : V3 ℝ) :
    0 ≤ oracleAngle Real.sqrt realAtan2 a b ∧ oracleAngle Real.sqrt realAtan2 a b ≤ Real.pi :=
  ⟨Complex.arg_nonneg_iff.mpr (Real.sqrt_nonneg _), Complex.arg_le_pi _⟩

/-- **`arctan(sin/cos)` is not the angle for obtuse arcs**: whenever the two vectors are not
    parallel and their dot product is negative (arc > 90°) the one-argument arctangent is
    negative, the angle is not -/
theorem arctan_form_wrong (a b : V3 ℝ) (hc : dot3 a b < 0)
    (hs : dot3 (cross3 a b) (cross3 a b) ≠ 0) :
    Real.arctan (Real.sqrt (dot3 (cross3 a b) (cross3 a b)) / dot3 a b) < 0 ∧
    Real.arctan (Real.sqrt (dot3 (cross3 a b) (cross3 a b)) / dot3 a b)
      ≠ oracleAngle Real.sqrt realAtan2 a b := by
  have hneg := Real.arctan_lt_zero.mpr
    (div_neg_of_pos_of_neg (Real.sqrt_pos.mpr (dot3_self_pos _ hs)) hc)
  exact ⟨hneg, fun h => absurd (h ▸ (oracleAngle_range a b).1) (not_le.mpr hneg)⟩

/-- non-vacuity: the x axis and a direction 135° away -/
example : dot3 (⟨1, 0, 0⟩ : V3 ℝ) ⟨-1, 1, 0⟩ < 0 ∧
    dot3 (cross3 (⟨1, 0, 0⟩ : V3 ℝ) ⟨-1, 1, 0⟩) (cross3 ⟨1, 0, 0⟩ ⟨-1, 1, 0⟩) ≠ 0 := by
  simp [dot3, cross3]

/-! ## §A3 conditioning of `arccos` -/

/-- **conditioning of the angle in terms of its cosine**: on `[a, π − a]` an error `δ` in the
    cosine moves the angle by at most `δ / sin a` -/
theorem angle_conditioning (a θ θ' : ℝ) (ha0 : 0 < a) (ha : a ≤ Real.pi / 2)
    (hθ : a ≤ θ ∧ θ ≤ Real.pi - a) (hθ' : a ≤ θ' ∧ θ' ≤ Real.pi - a) :
    |θ - θ'| ≤ |Real.cos θ - Real.cos θ'| / Real.sin a := by
  have hsa : 0 < Real.sin a :=
    Real.sin_pos_of_pos_of_lt_pi ha0 (ha.trans_lt (half_lt_self Real.pi_pos))
  rw [le_div_iff₀ hsa, mul_comm]
  rcases le_total θ θ' with h | h
  · rw [abs_sub_comm θ, abs_of_nonneg (sub_nonneg.mpr h)]
    exact (sin_mul_sub_le_cos_sub a θ θ' ha0.le hθ.1 h hθ'.2).trans (le_abs_self _)
  · rw [abs_of_nonneg (sub_nonneg.mpr h), abs_sub_comm (Real.cos θ)]
    exact (sin_mul_sub_le_cos_sub a θ' θ ha0.le hθ'.1 h hθ.2).trans (le_abs_self _)

/-- **the tolerance of the float clause**: if the computed cosine `c'` is within `δ` of the true
    cosine `c` and both lie in `[cos(π − a), cos a]` (arcs between `a` and `π − a`), then
    `arccos c'` is within `δ / sin a` of the true arc.  With `δ = 64 eps` (chosen in
    `Driver/C16.tolOf`, not derived here) this is the first term of that tolerance. -/
theorem arccos_error_bound (a c c' δ : ℝ) (ha0 : 0 < a) (ha : a ≤ Real.pi / 2)
    (hc : Real.cos (Real.pi - a) ≤ c ∧ c ≤ Real.cos a)
    (hc' : Real.cos (Real.pi - a) ≤ c' ∧ c' ≤ Real.cos a) (hδ : |c - c'| ≤ δ) :
    |Real.arccos c - Real.arccos c'| ≤ δ / Real.sin a := by
  have hsa : 0 < Real.sin a :=
    Real.sin_pos_of_pos_of_lt_pi ha0 (ha.trans_lt (half_lt_self Real.pi_pos))
  have hpi : a ≤ Real.pi := ha.trans (half_le_self Real.pi_pos.le)
  -- `arccos` maps `[cos (π − a), cos a]` back into `[a, π − a]`
  have key : ∀ x, Real.cos (Real.pi - a) ≤ x → x ≤ Real.cos a →
      a ≤ Real.arccos x ∧ Real.arccos x ≤ Real.pi - a := fun x h1 h2 =>
    ⟨(Real.arccos_cos ha0.le hpi).symm.trans_le (Real.arccos_le_arccos h2),
      (Real.arccos_le_arccos h1).trans_eq
        (Real.arccos_cos (sub_nonneg.mpr hpi) (sub_le_self _ ha0.le))⟩
  have h := angle_conditioning a (Real.arccos c) (Real.arccos c') ha0 ha
    (key c hc.1 hc.2) (key c' hc'.1 hc'.2)
  rw [Real.cos_arccos ((Real.neg_one_le_cos _).trans hc.1) (hc.2.trans (Real.cos_le_one _)),
    Real.cos_arccos ((Real.neg_one_le_cos _).trans hc'.1) (hc'.2.trans (Real.cos_le_one _))] at h
  exact h.trans (div_le_div_of_nonneg_right hδ hsa.le)

/-- non-vacuity: arcs between 60° and 120°, cosines 0 and 1/4 -/
example : |Real.arccos 0 - Real.arccos (1 / 4)| ≤ (1 / 4) / Real.sin (Real.pi / 3) := by
  have h3 : Real.cos (Real.pi - Real.pi / 3) = -(1 / 2) := by
    rw [Real.cos_pi_sub, Real.cos_pi_div_three]
  apply arccos_error_bound (Real.pi / 3) 0 (1 / 4) (1 / 4) (by positivity)
    (by linarith [Real.pi_pos])
  · rw [h3, Real.cos_pi_div_three]; constructor <;> norm_num
  · rw [h3, Real.cos_pi_div_three]; constructor <;> norm_num
  · norm_num [abs_of_nonneg]

/-! ## §A4 distances depend only on directions -/

/-- **scale invariance of the distance model**: the arc between two positions depends only on
    their directions — `dist (c•a) (d•b) = dist a b` for `c, d > 0` (the model, where `x / 0 = 0`,
    does not need `_ha`, `_hb`) -/
theorem dirDist_scale_invariant (c d : ℝ) (hc : 0 < c) (hd : 0 < d) (a b : V3 ℝ)
    (_ha : dot3 a a ≠ 0) (_hb : dot3 b b ≠ 0) :
    dirDist Real.arccos Real.sqrt (scale3 c a) (scale3 d b)
      = dirDist Real.arccos Real.sqrt a b := by
  simp only [dirDist, normalize3_scale c hc, normalize3_scale d hd]

/-- **scale invariance of the oracle**: `atan2(|a×b|, a·b)` needs no normalisation at all -/
theorem oracleAngle_scale_invariant (c d : ℝ) (hc : 0 < c) (hd : 0 < d) (a b : V3 ℝ) :
    oracleAngle Real.sqrt realAtan2 (scale3 c a) (scale3 d b)
      = oracleAngle Real.sqrt realAtan2 a b := by
  have hcd : 0 < c * d := mul_pos hc hd
  unfold oracleAngle realAtan2
  rw [cross3_scale, dot3_scale, dot3_scale, sqrt_mul_self_mul hcd.le]
  have : (⟨c * d * dot3 a b, c * d * Real.sqrt (dot3 (cross3 a b) (cross3 a b))⟩ : ℂ)
      = ((c * d : ℝ) : ℂ) * ⟨dot3 a b, Real.sqrt (dot3 (cross3 a b) (cross3 a b))⟩ := by
    apply Complex.ext <;> simp
  rw [this, Complex.arg_real_mul _ hcd]

/-- the model with the explicit normalisation step IS the oracle on raw positions -/
theorem dirDist_eq_oracle (a b : V3 ℝ) (ha : dot3 a a ≠ 0) (hb : dot3 b b ≠ 0) :
    dirDist Real.arccos Real.sqrt a b = oracleAngle Real.sqrt realAtan2 a b := by
  unfold dirDist
  rw [← oracle_eq_arccos _ _ (normalize3_unit a ha) (normalize3_unit b hb),
    normalize3_eq_scale3, normalize3_eq_scale3]
  exact oracleAngle_scale_invariant _ _ (inv_pos.mpr (Real.sqrt_pos.mpr (dot3_self_pos a ha)))
    (inv_pos.mpr (Real.sqrt_pos.mpr (dot3_self_pos b hb))) a b

/-- on Cartesian images (of ANY radii `R, S > 0`) of two lon/lat points the direction distance
    is exactly the law-of-cosines distance the code computes from lon/lat -/
theorem dirDist_xyz_eq_gcDist (R S : ℝ) (hR : 0 < R) (hS : 0 < S) (lonA latA lonB latB : ℝ) :
    dirDist Real.arccos Real.sqrt
        (scale3 R (xyz realTrig (realTrig.deg2rad lonA) (realTrig.deg2rad latA)))
        (scale3 S (xyz realTrig (realTrig.deg2rad lonB) (realTrig.deg2rad latB)))
      = gcDist realTrig lonA latA lonB latB := by
  unfold dirDist gcDist
  rw [normalize3_scale R hR, normalize3_scale S hS, normalize3_of_unit _ (xyz_unit _ _),
    normalize3_of_unit _ (xyz_unit _ _), lawcos_eq_dot]
  rfl

/-- **the face-distance table is radius-invariant**: rescaling every face centre by its own
    positive factor changes nothing -/
theorem edgeFaceDistXYZ_scale_invariant (r : FaceIx → ℝ) (hr : ∀ f, 0 < r f)
    (centre : FaceIx → V3 ℝ) (hc : ∀ f, dot3 (centre f) (centre f) ≠ 0) (ef : EdgeFaces) :
    edgeFaceDistXYZ Real.arccos Real.sqrt (fun f => scale3 (r f) (centre f)) ef
      = edgeFaceDistXYZ Real.arccos Real.sqrt centre ef :=
  map_edgeFaces_congr ef (fun _ => rfl) fun f g =>
    dirDist_scale_invariant _ _ (hr f) (hr g) _ _ (hc f) (hc g)

/-- the same for the node-distance table (nodes of mixed radii) -/
theorem edgeNodeDistXYZ_scale_invariant (r : NodeIx → ℝ) (hr : ∀ i, 0 < r i)
    (node : NodeIx → V3 ℝ) (hn : ∀ i, dot3 (node i) (node i) ≠ 0) (en : EdgeNodes) :
    edgeNodeDistXYZ Real.arccos Real.sqrt (fun i => scale3 (r i) (node i)) en
      = edgeNodeDistXYZ Real.arccos Real.sqrt node en :=
  List.map_congr_left fun p _ =>
    dirDist_scale_invariant _ _ (hr p.1) (hr p.2) _ _ (hn p.1) (hn p.2)

/-- … and whatever the radii, it is the lon/lat table `edgeFaceDist`: the two forms in which a source
    may give the centres denote the same distances -/
theorem edgeFaceDistXYZ_eq_edgeFaceDist (r : FaceIx → ℝ) (hr : ∀ f, 0 < r f)
    (faceLon faceLat : FaceArr ℝ) (ef : EdgeFaces) :
    edgeFaceDistXYZ Real.arccos Real.sqrt
        (fun f => scale3 (r f)
          (xyz realTrig (realTrig.deg2rad (faceLon f)) (realTrig.deg2rad (faceLat f)))) ef
      = edgeFaceDist realTrig faceLon faceLat ef :=
  map_edgeFaces_congr ef (fun _ => rfl) fun f g => dirDist_xyz_eq_gcDist _ _ (hr f) (hr g) _ _ _ _

/-- non-vacuity: radius 2, a quarter circle apart -/
example : dot3 (scale3 2 (⟨1, 0, 0⟩ : V3 ℝ)) (scale3 2 ⟨1, 0, 0⟩) = 4 ∧
    dirDist Real.arccos Real.sqrt (scale3 2 (⟨1, 0, 0⟩ : V3 ℝ)) (scale3 2 ⟨0, 1, 0⟩)
      = dirDist Real.arccos Real.sqrt ⟨1, 0, 0⟩ ⟨0, 1, 0⟩ :=
  ⟨by norm_num [dot3, scale3],
    dirDist_scale_invariant 2 2 two_pos two_pos _ _ (by simp [dot3]) (by simp [dot3])⟩

/-! ## §B index typing -/

section typing
variable {K : Type} [Add K] [Sub K] [Mul K] [Div K] [OfNat K 0]
-- the section fixes the model's operations once; a statement need not use all of them
set_option linter.unusedSectionVars false

/-- `edge_node_distances[e]` is the distance between edge `e`'s two NODES, read from the node
    coordinate arrays -/
theorem edgeNodeDist_uses_node_coords (T : Trig K) (nodeLon nodeLat : NodeArr K) (en : EdgeNodes)
    (e : Nat) (a b : NodeIx) (h : en[e]? = some (a, b)) :
    (edgeNodeDist T nodeLon nodeLat en)[e]?
      = some (gcDist T (nodeLon a) (nodeLat a) (nodeLon b) (nodeLat b)) :=
  getElem?_map_of_eq _ h

theorem edgeNodeDist_length (T : Trig K) (nodeLon nodeLat : NodeArr K) (en : EdgeNodes) :
    (edgeNodeDist T nodeLon nodeLat en).length = en.length :=
  List.length_map _

/-- **`edge_face_distances[e]` (repaired) is the distance between the CENTRES of the two faces
    sharing `e`**: face indices index the face-centre arrays and nothing else -/
theorem edgeFaceDist_uses_face_centres (T : Trig K) (faceLon faceLat : FaceArr K) (ef : EdgeFaces)
    (e : Nat) (f g : FaceIx) (h : ef[e]? = some (f, some g)) :
    (edgeFaceDist T faceLon faceLat ef)[e]?
      = some (gcDist T (faceLon f) (faceLat f) (faceLon g) (faceLat g)) :=
  getElem?_map_of_eq _ h

/-- … and exactly zero on boundary edges -/
theorem edgeFaceDist_boundary_zero (T : Trig K) (faceLon faceLat : FaceArr K) (ef : EdgeFaces)
    (e : Nat) (f : FaceIx) (h : ef[e]? = some (f, none)) :
    (edgeFaceDist T faceLon faceLat ef)[e]? = some 0 :=
  getElem?_map_of_eq _ h

theorem edgeFaceDist_length (T : Trig K) (faceLon faceLat : FaceArr K) (ef : EdgeFaces) :
    (edgeFaceDist T faceLon faceLat ef).length = ef.length :=
  List.length_map _

/-- what the UNREPAIRED code computes: the repaired algorithm run on the node arrays re-read at
    face numbers — the face centres never enter -/
theorem asis_edgeFaceDist_reads_nodes (T : Trig K) (nodeLon nodeLat : NodeArr K) (ef : EdgeFaces) :
    edgeFaceDistAsIs T nodeLon nodeLat ef
      = edgeFaceDist T (fun f => nodeLon f.asNode) (fun f => nodeLat f.asNode) ef :=
  map_edgeFaces_congr ef (fun _ => rfl) fun _ _ => rfl

/-- the unrepaired table is right exactly when, on every two-face edge, the arc between the
    NODES numbered like the two faces happens to equal the arc between the two face centres -/
theorem asis_edgeFaceDist_eq_iff (T : Trig K) (nodeLon nodeLat : NodeArr K)
    (faceLon faceLat : FaceArr K) (ef : EdgeFaces) :
    edgeFaceDistAsIs T nodeLon nodeLat ef = edgeFaceDist T faceLon faceLat ef ↔
      ∀ f g, (f, some g) ∈ ef →
        gcDist T (nodeLon f.asNode) (nodeLat f.asNode) (nodeLon g.asNode) (nodeLat g.asNode)
          = gcDist T (faceLon f) (faceLat f) (faceLon g) (faceLat g) := by
  unfold edgeFaceDistAsIs edgeFaceDist
  rw [List.map_inj_left]
  constructor
  · exact fun h f g hm => h (f, some g) hm
  · rintro h ⟨f, _ | g⟩ hm
    exacts [rfl, h f g hm]

end typing

/-- **as-is counterexample**: one edge between faces 0 and 1 whose centres are a quarter circle
    apart, while nodes 0 and 1 are antipodal: the unrepaired code reports `π`, the property
    demands `π/2`. -/
theorem asis_edge_face_dist_wrong :
    ∃ (nodeLon nodeLat : NodeArr ℝ) (faceLon faceLat : FaceArr ℝ) (ef : EdgeFaces),
      edgeFaceDistAsIs realTrig nodeLon nodeLat ef = [Real.pi] ∧
      edgeFaceDist realTrig faceLon faceLat ef = [Real.pi / 2] ∧
      edgeFaceDistAsIs realTrig nodeLon nodeLat ef ≠ edgeFaceDist realTrig faceLon faceLat ef := by
  have hπ : gcDist realTrig 0 0 180 0 = Real.pi := by
    rw [gcDist_equator 180 (by norm_num) le_rfl]
    ring
  have hπ2 : gcDist realTrig 0 0 90 0 = Real.pi / 2 := by
    rw [gcDist_equator 90 (by norm_num) (by norm_num)]
    ring
  refine ⟨fun i => if i.n = 0 then 0 else 180, fun _ => 0,
          fun i => if i.n = 0 then 0 else 90, fun _ => 0, [(⟨0⟩, some ⟨1⟩)],
          congrArg (· :: []) hπ, congrArg (· :: []) hπ2, fun h => ?_⟩
  have : Real.pi = Real.pi / 2 := (hπ.symm.trans (List.cons.inj h).1).trans hπ2
  linarith [Real.pi_pos]

/-- **the repaired reader attaches each supplied table to the element kind it measures**:
    `edge_node_distances` is the file's table between the points that are this mesh's NODES,
    `edge_face_distances` the table between the points that are its FACE CENTRES, unchanged. -/
theorem mpas_supplied_roles {K : Type} (dual : Bool) (dv dc : List K) :
    (mpasDistances dual dv dc).1 = mpasTable dv dc (mpasNodeKind dual) ∧
    (mpasDistances dual dv dc).2 = mpasTable dv dc (mpasFaceKind dual) ∧
    mpasDistances false dv dc = (dv, dc) ∧ mpasDistances true dv dc = (dc, dv) :=
  ⟨rfl, rfl, rfl, rfl⟩

/-- the dual mesh exchanges the roles -/
theorem mpas_dual_swaps_roles (dual : Bool) :
    mpasNodeKind (!dual) = mpasFaceKind dual ∧ mpasFaceKind (!dual) = mpasNodeKind dual := by
  cases dual <;> exact ⟨rfl, rfl⟩

/-- **as-is counterexample**: on the dual mesh the unrepaired reader hands out the tables the
    wrong way round whenever they differ -/
theorem asis_mpas_dual_swapped {K : Type} (dv dc : List K) (h : dv ≠ dc) :
    mpasDistancesAsIs true dv dc ≠ mpasDistances true dv dc ∧
    mpasDistancesAsIs false dv dc = mpasDistances false dv dc :=
  ⟨fun hEq => h (Prod.mk.inj hEq).1, rfl⟩

/-! ## §C differences, gradients, normalisation -/

section ops
variable {K : Type} [Field K] [LinearOrder K] [IsStrictOrderedRing K]

set_option linter.unusedSectionVars false

local notation "absK" => (fun x : K => |x|)

/-- the code's `abs 0` on a boundary edge is the specification's `0` -/
theorem diffFace_meets_spec (ef : EdgeFaces) (d : FaceArr K) :
    diffFace absK ef d = ef.map (faceDiffOf absK d) :=
  map_edgeFaces_congr ef (fun _ => abs_zero) fun _ _ => rfl

theorem gradEdge_meets_spec (ef : EdgeFaces) (dist : List K) (d : FaceArr K) :
    gradEdge absK ef dist d = List.zipWith (gradOf absK d) ef dist := by
  unfold gradEdge
  congr 1
  funext ⟨f, g⟩ δ
  cases g
  exacts [abs_zero, rfl]

/-- **zero on boundary edges** -/
theorem diff_boundary_zero (ef : EdgeFaces) (d : FaceArr K) (e : Nat) (f : FaceIx)
    (h : ef[e]? = some (f, none)) : (diffFace absK ef d)[e]? = some 0 :=
  (getElem?_map_of_eq _ h).trans (congrArg some abs_zero)

/-- **zero for constant fields** (face data) -/
theorem diff_const_zero (ef : EdgeFaces) (c : K) : ∀ x ∈ diffFace absK ef (fun _ => c), x = 0 :=
  List.forall_mem_map.mpr fun ⟨_, g⟩ _ => by
    cases g
    exacts [abs_zero, (congrArg _ (sub_self c)).trans abs_zero]

/-- **node difference**: entry `e` is `|d a − d b|` over the edge's own two nodes -/
theorem diff_node_eq (en : EdgeNodes) (d : NodeArr K) (e : Nat) (a b : NodeIx)
    (h : en[e]? = some (a, b)) : (diffNode absK en d)[e]? = some |d a - d b| :=
  getElem?_map_of_eq _ h

theorem diff_node_const_zero (en : EdgeNodes) (c : K) :
    ∀ x ∈ diffNode absK en (fun _ => c), x = 0 :=
  List.forall_mem_map.mpr fun _ _ => (congrArg _ (sub_self c)).trans abs_zero

/-- differences are absolute: non-negative, and independent of the order of the two faces -/
theorem diff_nonneg (ef : EdgeFaces) (d : FaceArr K) : ∀ x ∈ diffFace absK ef d, 0 ≤ x :=
  List.forall_mem_map.mpr fun _ _ => by
    split <;> exact abs_nonneg _

theorem diff_swap (d : FaceArr K) (f g : FaceIx) :
    diffFace absK [(f, some g)] d = diffFace absK [(g, some f)] d :=
  congrArg (· :: []) (abs_sub_comm _ _)

/-- **gradient = difference / centre-to-centre distance** on every two-face edge -/
theorem grad_eq_diff_div_dist (ef : EdgeFaces) (dist : List K) (d : FaceArr K) (e : Nat)
    (f g : FaceIx) (δ : K) (h : ef[e]? = some (f, some g)) (hδ : dist[e]? = some δ) :
    (gradEdge absK ef dist d)[e]? = some (|d f - d g| / δ) ∧
    (diffFace absK ef d)[e]? = some |d f - d g| := by
  refine ⟨?_, diff_face_eq _ ef d e f g h⟩
  rw [gradEdge, List.getElem?_zipWith, h, hδ]

/-- **the gradient is zero on boundary edges** -/
theorem grad_boundary_zero (ef : EdgeFaces) (dist : List K) (d : FaceArr K) (e : Nat)
    (f : FaceIx) (δ : K) (h : ef[e]? = some (f, none)) (hδ : dist[e]? = some δ) :
    (gradEdge absK ef dist d)[e]? = some 0 := by
  rw [gradEdge, List.getElem?_zipWith, h, hδ]
  exact congrArg some abs_zero

/-- **the gradient of a constant field is zero** (`_hd`, no `0/0`, is for the code: in the model
    `x / 0 = 0`) -/
theorem grad_const_zero (ef : EdgeFaces) (dist : List K) (c : K) (_hd : ∀ δ ∈ dist, δ ≠ 0) :
    ∀ x ∈ gradEdge absK ef dist (fun _ => c), x = 0 := by
  intro x hx
  obtain ⟨i, hi⟩ := List.mem_iff_getElem?.mp hx
  obtain ⟨⟨_, g⟩, δ, _, _, rfl⟩ := List.getElem?_zipWith_eq_some.mp hi
  cases g
  · exact abs_zero
  · show |c - c| / δ = 0
    rw [sub_self, abs_zero, zero_div]

theorem sumsq_append (a b : List K) : sumsq (a ++ b) = sumsq a + sumsq b := by
  induction a with
  | nil => exact (zero_add _).symm
  | cons x xs ih => simp only [List.cons_append, sumsq, ih, add_assoc]

/-- **a normalised slice has unit Euclidean norm** — for ANY square-root function that is a
    right inverse of squaring on non-negative numbers, whenever the slice's gradient is not
    identically zero -/
theorem normalized_unit_norm (sqrt : K → K) (hs : ∀ x, 0 ≤ x → sqrt x * sqrt x = x)
    (row : List K) (h : sumsq row ≠ 0) : sumsq (normalizeRow sqrt row) = 1 := by
  unfold normalizeRow
  rw [sumsq_map_div, hs _ (sumsq_nonneg row), div_self h]

/-- every leading slice of the REPAIRED normalisation has unit norm -/
theorem normalizeLast_unit_norm (sqrt : K → K) (hs : ∀ x, 0 ≤ x → sqrt x * sqrt x = x)
    (rows : List (List K)) (i : Nat) (row : List K) (hi : rows[i]? = some row)
    (h : sumsq row ≠ 0) :
    ∃ r, (normalizeLast sqrt rows)[i]? = some r ∧ sumsq r = 1 :=
  ⟨normalizeRow sqrt row, getElem?_map_of_eq _ hi, normalized_unit_norm sqrt hs row h⟩

/-- with a single leading slice (rank-1 data) the unrepaired code coincides with the repaired
    one — which is why the rank-1 test of the repository passes -/
theorem asis_normalize_single_slice_ok (sqrt : K → K) (row : List K) :
    normalizeAsIs sqrt [row] = normalizeLast sqrt [row] := by
  simp only [normalizeAsIs, normalizeLast, normalizeRow, List.map_cons, List.map_nil,
    List.flatten_cons, List.flatten_nil, List.append_nil]

/-- **every operator acts on each leading slice independently** (it is a map over the list of
    leading slices): slice `i` of the result is the operator applied to slice `i` of the data -/
theorem leading_independent (sqrt : K → K) (nrm : Bool) (ef : EdgeFaces) (en : EdgeNodes)
    (dist : List K) (datas : List (FaceArr K)) (ndatas : List (NodeArr K)) (i : Nat) :
    (differenceFaceND absK ef datas)[i]? = (datas[i]?).map (diffFace absK ef) ∧
    (differenceNodeND absK en ndatas)[i]? = (ndatas[i]?).map (diffNode absK en) ∧
    (gradientND absK sqrt nrm ef dist datas)[i]?
      = (datas[i]?).map (fun d =>
          if nrm then normalizeRow sqrt (gradEdge absK ef dist d) else gradEdge absK ef dist d) := by
  rw [gradientND_eq_map]
  exact ⟨List.getElem?_map, List.getElem?_map, List.getElem?_map⟩

/-- consequence: changing the data at OTHER leading indices cannot change slice `i` -/
theorem leading_frame (sqrt : K → K) (nrm : Bool) (ef : EdgeFaces) (dist : List K)
    (datas datas' : List (FaceArr K)) (i : Nat) (h : datas[i]? = datas'[i]?) :
    (gradientND absK sqrt nrm ef dist datas)[i]? = (gradientND absK sqrt nrm ef dist datas')[i]? ∧
    (differenceFaceND absK ef datas)[i]? = (differenceFaceND absK ef datas')[i]? := by
  have a := leading_independent sqrt nrm ef [] dist datas [] i
  have b := leading_independent sqrt nrm ef [] dist datas' [] i
  exact ⟨by rw [a.2.2, b.2.2, h], by rw [a.1, b.1, h]⟩

/-- **result shape**: as many leading slices as the data, each of length `n_edge`; the dimension
    names are the data's with the last one replaced by `n_edge` -/
theorem result_dims (sqrt : K → K) (nrm : Bool) (ef : EdgeFaces) (en : EdgeNodes) (dist : List K)
    (datas : List (FaceArr K)) (ndatas : List (NodeArr K)) (hd : dist.length = ef.length) :
    (differenceFaceND absK ef datas).length = datas.length ∧
    (∀ r ∈ differenceFaceND absK ef datas, r.length = ef.length) ∧
    (differenceNodeND absK en ndatas).length = ndatas.length ∧
    (∀ r ∈ differenceNodeND absK en ndatas, r.length = en.length) ∧
    (gradientND absK sqrt nrm ef dist datas).length = datas.length ∧
    (∀ r ∈ gradientND absK sqrt nrm ef dist datas, r.length = ef.length) := by
  rw [gradientND_eq_map]
  refine ⟨List.length_map _, List.forall_mem_map.mpr fun d _ => diff_length ef d,
    List.length_map _, List.forall_mem_map.mpr fun d _ => diff_node_length en d,
    List.length_map _, List.forall_mem_map.mpr fun d _ => ?_⟩
  cases nrm
  · exact grad_length ef dist d hd
  · exact (List.length_map _).trans (grad_length ef dist d hd)

end ops

/-- dimension names: leading names kept, element dimension replaced by `n_edge` -/
theorem result_dim_names {α : Type} (edge last : α) (lead : List α) :
    resultDims edge (lead ++ [last]) = lead ++ [edge] ∧
    (resultDims edge (lead ++ [last])).length = (lead ++ [last]).length := by
  simp [resultDims]

/-- which table each wrapper uses: face-centred data → the edge's faces, node-centred data →
    the edge's nodes; numbers are returned for nothing else -/
theorem dispatch_table (c : Centre) (d : Dest) :
    (differenceDispatch c d = .edgeFaceDifference ↔ c = .face ∧ d = .edge) ∧
    (differenceDispatch c d = .edgeNodeDifference ↔ c = .node ∧ d = .edge) ∧
    (gradientDispatch c = .gradient ↔ c = .face) := by
  cases c <;> cases d <;> decide

/-- **as-is counterexample (unit norm)**: two leading slices with gradients `[3]` and `[4]`: the
    unrepaired code divides both by the global norm 5, so the slices have norms 3/5 and 4/5 -/
theorem asis_normalize_global_norm :
    normalizeAsIs Real.sqrt [[3], [4]] = [[3 / 5], [4 / 5]] ∧
    (∀ r ∈ normalizeAsIs Real.sqrt [[(3 : ℝ)], [4]], sumsq r ≠ 1) ∧
    (∀ r ∈ normalizeLast Real.sqrt [[(3 : ℝ)], [4]], sumsq r = 1) := by
  have h5 := sqrt_sumsq_pair (x := 3) (y := 4) (n := 5) (by norm_num) (by norm_num)
  have A : normalizeAsIs Real.sqrt [[3], [4]] = [[3 / 5], [4 / 5]] := by
    simp only [normalizeAsIs, List.map_cons, List.map_nil, h5]
  have h0 : ∀ row ∈ ([[3], [4]] : List (List ℝ)), sumsq row ≠ 0 := by norm_num [sumsq]
  refine ⟨A, by norm_num [A, sumsq], List.forall_mem_map.mpr fun row hrow =>
    normalized_unit_norm Real.sqrt (fun x => Real.mul_self_sqrt) row (h0 row hrow)⟩

/-- **as-is counterexample (leading independence)**: slice 0 of the unrepaired result changes
    when only slice 1 of the input changes -/
theorem asis_normalize_not_leading_independent :
    (normalizeAsIs Real.sqrt [[(3 : ℝ)], [4]])[0]? ≠ (normalizeAsIs Real.sqrt [[(3 : ℝ)], [0]])[0]? := by
  have h5 := sqrt_sumsq_pair (x := 3) (y := 4) (n := 5) (by norm_num) (by norm_num)
  have h3 := sqrt_sumsq_pair (x := 3) (y := 0) (n := 3) (by norm_num) (by norm_num)
  simp only [normalizeAsIs, List.map_cons, List.map_nil, h5, h3,
    List.getElem?_cons_zero]
  norm_num

/-! ## §D reflection of the decidable specifications evaluated by the driver -/

section reflect
variable {K : Type} [Sub K] [Div K] [OfNat K 0] [BEq K] [LawfulBEq K]
set_option linter.unusedSectionVars false

/-- the Boolean the driver evaluates on the implementation's difference is the pointwise
    specification: same length, entry `e` is the property's value for edge `e` -/
theorem diffFaceSpecB_iff (abs : K → K) (ef : EdgeFaces) (d : FaceArr K) (out : List K) :
    diffFaceSpecB abs ef d out = true ↔ ∀ e : Nat, out[e]? = (ef[e]?).map (faceDiffOf abs d) := by
  simp only [diffFaceSpecB, beq_iff_eq, List.ext_getElem?_iff, List.getElem?_map]

theorem diffNodeSpecB_iff (abs : K → K) (en : EdgeNodes) (d : NodeArr K) (out : List K) :
    diffNodeSpecB abs en d out = true ↔
      ∀ e : Nat, out[e]? = (en[e]?).map (fun p : NodeIx × NodeIx => abs (d p.1 - d p.2)) := by
  simp only [diffNodeSpecB, beq_iff_eq, List.ext_getElem?_iff, List.getElem?_map]

/-- a list equality, since `zipWith` truncates to the shorter table -/
theorem gradSpecB_iff (abs : K → K) (ef : EdgeFaces) (dist : List K) (d : FaceArr K)
    (out : List K) :
    gradSpecB abs ef dist d out = true ↔ out = List.zipWith (gradOf abs d) ef dist :=
  beq_iff_eq

end reflect

/-- a strip of two faces plus a boundary edge; rank-2 data with one constant slice -/
example :
    differenceFaceND (fun x : Rat => |x|) [(⟨0⟩, some ⟨1⟩), (⟨1⟩, none), (⟨2⟩, some ⟨0⟩)]
      [fun i => [5, 2, 9].getD i.n 0, fun _ => 7] = [[3, 0, 4], [0, 0, 0]] := by decide +kernel

example :
    gradEdge (fun x : Rat => |x|) [(⟨0⟩, some ⟨1⟩), (⟨1⟩, none), (⟨2⟩, some ⟨0⟩)] [1/2, 0, 4]
      (fun i => [5, 2, 9].getD i.n 0) = [6, 0, 1] := by decide +kernel

example :
    diffFaceSpecB (fun x : Rat => |x|) [(⟨0⟩, some ⟨1⟩), (⟨1⟩, none)] (fun i => [5, 2].getD i.n 0)
      [3, 0] = true ∧
    diffFaceSpecB (fun x : Rat => |x|) [(⟨0⟩, some ⟨1⟩), (⟨1⟩, none)] (fun i => [5, 2].getD i.n 0)
      [3, 1] = false := by decide +kernel

example : TablesWF 3 2 [(⟨0⟩, ⟨2⟩)] [(⟨1⟩, some ⟨0⟩), (⟨0⟩, none)] ∧
    ¬ TablesWF 2 3 [(⟨0⟩, ⟨2⟩)] [] := by decide

end UxVerif.C16
