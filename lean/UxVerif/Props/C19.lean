/-
  C19 — A grid shares no mutable state with its inputs, copies or exports.

  Objects are roots in a heap of references (`Model/Heap.lean`); uxarray's operations alias or
  allocate.  The theorems are about EVERY heap and EVERY history of actions.

  * `copy_independent`: separated ⇒ any history on one side leaves the other untouched
  * `construct_readonly`, `adopt_shallow_independent`: constructors do not write their inputs
  * `copy_disjoint`, `copy_equal`, `grid_copy_independent`, `grid_copy_independent_caches`,
    `copy_caches_empty`, `handover_copy_shares`: `Grid.copy()` and the caches
  * `export_disjoint_ugrid`, `export_disjoint_fresh`, `export_independent`: exports
  * `judge_sep`, `judge_shared`, `frameJ_ok`, `frameJ_changed`, `wfB_wf`: the driver's verdicts
  * `asis_*`, `*_not_independent`: what the code does today, regression witnesses for `fixes/C19-*.patch`
-/
import UxVerif.Lemmas.Heap

namespace UxVerif.C19
open UxVerif.Heap

/-! ## separated objects -/

theorem shared_not_sep {h : Heap} {a b x : Nat} (ha : Reach h a x) (hb : Reach h b x) : ¬ Sep h a b :=
  fun sp => sp x ha hb

/-- **copy_independent**: if two objects share no cell, then ANY history of mutator actions on one
    of them leaves every cell the other one can reach — payloads, dictionary keys, references —
    exactly as it was; and vice versa. -/
theorem copy_independent {h : Heap} {r s : Nat} (inv : Inv h r s) (acts : List Act) :
    Frame h (runActs h s acts) r ∧ Frame h (runActs h r acts) s :=
  ⟨(runActs_preserves acts (inv_symm inv)).1, (runActs_preserves acts inv).1⟩

/-- … and the set of cells the untouched object reaches does not change either -/
theorem copy_independent_reach {h : Heap} {r s : Nat} (inv : Inv h r s) (acts : List Act) (x : Nat) :
    Reach (runActs h s acts) r x ↔ Reach h r x :=
  frame_reach (copy_independent inv acts).1

/-- interleaved form: after ANY interleaved history on both objects, the next action of either
    object still leaves the other one untouched (and they stay separated). -/
theorem copy_independent_interleaved {h : Heap} {r s : Nat} (inv : Inv h r s)
    (pre : List (Bool × Act)) (act : Act) :
    let h1 := runBoth h r s pre
    Frame h1 (applyAct h1 s act) r ∧ Frame h1 (applyAct h1 r act) s ∧ Sep h1 r s := by
  have i1 := runBoth_inv pre inv
  exact ⟨(act_preserves (inv_symm i1) act).1, (act_preserves i1 act).1, i1.sep⟩

/-! ## constructors -/

/-- **construct_readonly**: building a grid (`from_topology`, `from_face_vertices`, `from_dataset`
    through a reader) does not modify anything an input can reach — arrays, attribute
    dictionaries, variables, the dataset — for any number of variables and whichever input
    buffers the grid wraps without copying. -/
theorem construct_readonly (h : Heap) (vs : List VarSpec) (attrs spec : List Int) (wf : WF h)
    {i : Nat} (hi : i < h.length) : Frame h (build h vs attrs spec).1 i :=
  lowSame_frame wf hi (allocGrid_lowSame h vs attrs spec)

/-- the built heap has no dangling reference and the new grid is a valid root -/
theorem construct_wf (h : Heap) (vs : List VarSpec) (attrs spec : List Int) (wf : WF h)
    (ok : ∀ v ∈ vs, ∀ b, v.alias = some b → b < h.length) :
    WF (build h vs attrs spec).1 ∧ (build h vs attrs spec).2 < (build h vs attrs spec).1.length :=
  have ⟨e, _, r2⟩ := allocGrid_block (n0 := 0) (A := (· < h.length)) vs attrs spec (Nat.zero_le _) ok
  ⟨block_wf e (fun _ => id) wf, r2⟩

theorem alias_some_elim {vs : List VarSpec} (na : ∀ v ∈ vs, v.alias = none) :
    ∀ v ∈ vs, ∀ b, v.alias = some b → False :=
  fun v hv b hb => by rw [na v hv] at hb; cases hb

/-- a grid built without wrapping any input buffer is separated from every input -/
theorem construct_disjoint_of_no_alias (h : Heap) (vs : List VarSpec) (attrs spec : List Int)
    (wf : WF h) (na : ∀ v ∈ vs, v.alias = none) {i : Nat} (hi : i < h.length) :
    Sep (build h vs attrs spec).1 i (build h vs attrs spec).2 :=
  have ⟨e, r1, r2⟩ := allocGrid_block vs attrs spec (Nat.le_refl h.length) (alias_some_elim na)
  (block_fresh wf e hi r1 r2).1.sep

/-- **as the code stands** (`from_topology` / UGRID reader, int64 table with a non-standard fill
    value or start index): whenever standardising changes the table, the caller's array is modified. -/
theorem asis_construct_writes_input (h : Heap) (inp : Nat) (c : Cell) (processed : List Int)
    (vs : List VarSpec) (attrs spec : List Int) (hc : h[inp]? = some c) (hne : processed ≠ c.data) :
    ¬ Frame h (buildAsIs h inp processed vs attrs spec).1 inp := by
  refine not_frame_of_follow [] inp ⟨rfl, fun e => hne ?_⟩
  have hl : inp < (h.modify inp (setData processed)).length := by
    rw [List.length_modify]; exact cell_lt hc
  rw [buildAsIs, allocGrid_lowSame _ vs attrs spec inp hl, List.getElem?_modify_eq, hc] at e
  exact congrArg Cell.data (Option.some.inj e)

/-- `Grid(ds, …)` / `from_dataset(ds, source_grid_spec=…)` without a longitude wrap leaves the
    caller's dataset untouched at construction time … -/
theorem adopt_readonly_partial (h : Heap) (ds lv : Nat) (spec : List Int) (wf : WF h)
    (hds : ds < h.length) : Frame h (adopt h ds lv none spec).1 ds :=
  lowSame_frame wf hds (lowSame_append h _)

/-- … but (known finding) the caller's dataset IS the grid's dataset: every later derivation or
    setter on the grid is a modification of the input. -/
theorem asis_adopt_shares (h : Heap) (ds lv : Nat) (spec : List Int) :
    Reach (adopt h ds lv none spec).1 (adopt h ds lv none spec).2 ds := by
  refine Reach.step Reach.refl ?_
  unfold adopt succs
  simp only
  rw [List.getElem?_append_right (by omega)]
  simp

/-! ## shallow adoption: `Grid(ds, …)` / `from_dataset(ds, source_grid_spec=…)` once repaired

  The grid keeps its own Dataset, Variable and attribute-dictionary objects around the caller's
  ARRAYS (zero-copy).  Grid and input are therefore not separated — but whatever the library does to
  the grid except writing into an array in place stays above the caller's objects. -/

theorem kVar_ne_kData (v : Nat) : kVar v ≠ kData := by
  unfold kVar kData; omega

theorem cleanPath_cons {k : Nat} {p : Path} (hk : k ≠ kData) (hp : cleanPath p) : cleanPath (k :: p) :=
  List.forall_mem_cons.mpr ⟨hk, hp⟩

theorem cleanAct_prefix {k : Nat} (hk : k ≠ kData) : ∀ {a : Act}, CleanAct a → CleanAct (prefixAct k a)
  | .write _ _, cl => cleanPath_cons hk cl
  | .unlink _ _, cl => cleanPath_cons hk cl
  | .link _ _ _, cl => ⟨cleanPath_cons hk cl.1, fun hj => cleanPath_cons hk (cl.2 hj)⟩
  | .fresh _ _ _ kids, cl => by
    refine ⟨cleanPath_cons hk cl.1, fun kq hkq hne => ?_⟩
    obtain ⟨x, hx, rfl⟩ := List.mem_map.mp hkq
    exact cleanPath_cons hk (cl.2 x hx hne)

-- `noArrayWrite` lives on `GridOp`; on `.data (.writeVar _ _)` it is `False`
theorem mut_clean (m : Mut) (hm : (GridOp.data m).noArrayWrite) : ∀ a ∈ m.actsDs, CleanAct a := by
  have var : ∀ v, cleanPath [kVar v] := fun v => cleanPath_cons (kVar_ne_kData v) nofun
  cases m with
  | writeVar v d => exact hm.elim
  | setVar v d a =>
    exact List.forall_mem_cons.mpr ⟨⟨nofun, nofun⟩, List.forall_mem_cons.mpr ⟨⟨var v, nofun⟩,
      List.forall_mem_singleton.mpr ⟨var v, nofun⟩⟩⟩
  | rebind v d => exact List.forall_mem_singleton.mpr ⟨var v, nofun⟩
  | varAttr v d =>
    exact List.forall_mem_singleton.mpr
      (cleanPath_cons (kVar_ne_kData v) (cleanPath_cons (by decide) nofun))
  | dsAttr d => exact List.forall_mem_singleton.mpr (cleanPath_cons (by decide) nofun)
  | delVar v => exact List.forall_mem_singleton.mpr nofun
  | writeRoot d => exact List.forall_mem_singleton.mpr nofun

theorem gridOp_clean (op : GridOp) (hop : op.noArrayWrite) : ∀ a ∈ op.acts, CleanAct a := by
  cases op with
  | cache c =>
    cases c with
    | fill k d => exact List.forall_mem_singleton.mpr ⟨nofun, List.forall_mem_singleton.mpr fun _ => nofun⟩
    | drop k => exact List.forall_mem_singleton.mpr nofun
    | switch k d => exact List.forall_mem_singleton.mpr (cleanPath_cons hop nofun)
  | data m =>
    intro a ha
    obtain ⟨a', ha', rfl⟩ := List.mem_map.mp ha
    exact cleanAct_prefix (by decide) (mut_clean m hop a' ha')

theorem adoptShallow_state (h : Heap) (ds lv : Nat) (wrapped : Option (List Int)) (spec : List Int) :
    LowSame h (adoptShallow h ds lv wrapped spec).1 ∧
    DataOnlyLow h.length (adoptShallow h ds lv wrapped spec).1 ∧
    h.length ≤ (adoptShallow h ds lv wrapped spec).2 ∧
    (adoptShallow h ds lv wrapped spec).2 < (adoptShallow h ds lv wrapped spec).1.length := by
  obtain ⟨ex, hg, hl⟩ := allocGrid_block (A := fun _ => True) (dsVarsShallow h ds) (dsAttrsData h ds) spec
    (Nat.le_refl h.length) (fun _ _ _ _ => trivial)
  unfold adoptShallow
  cases wrapped with
  | none => exact ⟨block_lowSame ex, block_dataOnlyLow ex, hg, hl⟩
  | some d =>
    have cl : CleanAct (.fresh [kDs, kVar lv] kData d []) :=
      ⟨cleanPath_cons (by decide) (cleanPath_cons (kVar_ne_kData lv) nofun), nofun⟩
    obtain ⟨tg, Q⟩ := cleanAct_preserves (block_dataOnlyLow ex) hg _ cl
    dsimp only
    refine ⟨fun a ha => ?_, Q, hg, Nat.lt_of_lt_of_le hl (length_applyAct_ge _ _ _)⟩
    rw [applyAct_below _ tg a ha]
    exact block_lowSame ex a ha

/-- **adopt_shallow_independent**: after the (repaired) `Grid(ds)` — also when a longitude had to be
    re-wrapped — ANY history of grid operations other than in-place array writes (derivations,
    setters, `.data =` rebinding, attribute edits, deletions, cache fills / switches) leaves every
    cell that existed before the call, hence everything the caller's dataset reaches, as it was. -/
theorem adopt_shallow_independent (h : Heap) (ds lv : Nat) (wrapped : Option (List Int)) (spec : List Int)
    (wf : WF h) (hds : ds < h.length) (ops : List GridOp) (hops : ∀ op ∈ ops, op.noArrayWrite) :
    Frame h (runActs (adoptShallow h ds lv wrapped spec).1 (adoptShallow h ds lv wrapped spec).2
      (ops.flatMap GridOp.acts)) ds := by
  obtain ⟨ls, Q, hr, hl⟩ := adoptShallow_state h ds lv wrapped spec
  have hall : ∀ a ∈ ops.flatMap GridOp.acts, CleanAct a := by
    intro a ha
    obtain ⟨op, hop, hm⟩ := List.mem_flatMap.mp ha
    exact gridOp_clean op (hops op hop) a hm
  obtain ⟨ht, _⟩ := runActs_clean hr _ Q hall
  intro x hx
  have hxl : x < h.length := reach_lt wf hds hx
  rw [runActs_lowSame _ (Nat.le_of_lt (Nat.lt_of_le_of_lt hr hl)) ht x hxl]
  exact ls x hxl

/-- construction itself (no later operations): `Grid(ds)` leaves the caller's dataset as it was -/
theorem adopt_shallow_readonly (h : Heap) (ds lv : Nat) (wrapped : Option (List Int)) (spec : List Int)
    (wf : WF h) (hds : ds < h.length) : Frame h (adoptShallow h ds lv wrapped spec).1 ds :=
  lowSame_frame wf hds (adoptShallow_state h ds lv wrapped spec).1

/-! ## `Grid.copy()` -/

theorem copyGrid_eq {h : Heap} {g ds dm : Nat} {c : Cell} (hc : h[g]? = some c)
    (hds : field h g kDs = some ds) (hdm : field h g kDims = some dm) :
    copyGrid h g =
      (dup h ++ [⟨c.data, [(kDs, ds + h.length), (kDims, dm + h.length)]⟩], (dup h).length) := by
  simp only [copyGrid, hc, hds, hdm, length_dup]

/-- **copy_disjoint**: the (repaired) copy shares no cell with the original, the original is
    untouched by copying, and the result is a well-formed heap with two valid roots. -/
theorem copy_disjoint {h : Heap} {g ds dm : Nat} {c : Cell} (wf : WF h) (hc : h[g]? = some c)
    (hds : field h g kDs = some ds) (hdm : field h g kDims = some dm) :
    Inv (copyGrid h g).1 g (copyGrid h g).2 ∧ Frame h (copyGrid h g).1 g := by
  have hdsl : ds < h.length := wf g ds (field_succs hds)
  have hdml : dm < h.length := wf g dm (field_succs hdm)
  rw [copyGrid_eq hc hds hdm]
  -- `dup h` and the new Grid cell form one block
  refine block_fresh wf (block_trans (dup_block wf) ⟨_, rfl, ?_⟩) (cell_lt hc) (by rw [length_dup]; omega)
    (by rw [List.length_append]; exact Nat.lt_succ_self _)
  simp only [List.forall_mem_cons, List.length_append, length_dup, List.length_cons, List.length_nil]
  exact ⟨⟨Or.inl (by omega), Or.inl (by omega), nofun⟩, nofun⟩

/-- the copy reports what the original reports: its dataset is the relocated image of the
    original's dataset, cell by cell -/
theorem copy_equal {h : Heap} {g ds dm : Nat} {c : Cell} (wf : WF h) (hc : h[g]? = some c)
    (hds : field h g kDs = some ds) (hdm : field h g kDims = some dm) :
    field (copyGrid h g).1 (copyGrid h g).2 kDs = some (ds + h.length) ∧
    ∀ x, Reach h ds x →
      Reach (copyGrid h g).1 (ds + h.length) (x + h.length) ∧
      (copyGrid h g).1[x + h.length]? = (h[x]?).map (shiftCell h.length) := by
  have hdsl : ds < h.length := wf g ds (field_succs hds)
  rw [copyGrid_eq hc hds hdm]
  constructor
  · rw [field_new]; rfl
  · intro x hx
    have hxl : x < h.length := reach_lt wf hdsl hx
    have ls := lowSame_append (dup h) [⟨c.data, [(kDs, ds + h.length), (kDims, dm + h.length)]⟩]
    refine ⟨reach_mono ls (reach_dup hx), ?_⟩
    rw [ls (x + h.length) (by rw [length_dup]; omega), dup_high]

/-- **grid_copy_independent**: after `c = g.copy()`, ANY history of public mutators (lazy
    derivations, setters, in-place writes, `.data =` rebinding, attribute edits, deletions) applied
    to the copy leaves everything the original reaches untouched, and vice versa. -/
theorem grid_copy_independent {h : Heap} {g ds dm : Nat} {c : Cell} (wf : WF h) (hc : h[g]? = some c)
    (hds : field h g kDs = some ds) (hdm : field h g kDims = some dm) (ms : List Mut) :
    Frame (copyGrid h g).1 (runActs (copyGrid h g).1 (copyGrid h g).2 (ms.flatMap Mut.actsGrid)) g ∧
    Frame (copyGrid h g).1 (runActs (copyGrid h g).1 g (ms.flatMap Mut.actsGrid)) (copyGrid h g).2 :=
  copy_independent (copy_disjoint wf hc hds hdm).1 _

/-- **as the code stands**: `Grid.copy()` hands the SAME dataset (and dims dictionary) to the new
    grid — both grids reach it, so they are not separated. -/
theorem asis_copy_shares {h : Heap} {g ds dm : Nat} {c : Cell} (hc : h[g]? = some c)
    (hds : field h g kDs = some ds) (hdm : field h g kDims = some dm) :
    Reach (copyGridAsIs h g).1 g ds ∧ Reach (copyGridAsIs h g).1 (copyGridAsIs h g).2 ds ∧
    ¬ Sep (copyGridAsIs h g).1 g (copyGridAsIs h g).2 := by
  simp only [copyGridAsIs, hc, hds, hdm]
  have r1 : Reach (h ++ [⟨c.data, [(kDs, ds), (kDims, dm)]⟩]) g ds :=
    reach_mono (lowSame_append _ _) (follow_reach (p := [kDs]) (by simp only [follow, hds]))
  have r2 : Reach (h ++ [⟨c.data, [(kDs, ds), (kDims, dm)]⟩]) h.length ds :=
    follow_reach (p := [kDs]) (by simp only [follow, field_new]; rfl)
  exact ⟨r1, r2, shared_not_sep r1 r2⟩

/-! ## caches (`_ball_tree`, `_kd_tree`, cached GeoDataFrame / collections, …)

  `copy_disjoint` is about EVERY original grid cell — whatever helper objects its cache fields refer
  to, including objects that refer back to the grid — so the copy never reaches a cache of the
  original.  The theorems below make the cache part explicit. -/

/-- the (repaired) copy starts with EMPTY caches: its cell has the dataset and the dims dictionary
    and nothing else -/
theorem copy_caches_empty {h : Heap} {g ds dm : Nat} {c : Cell} (hc : h[g]? = some c)
    (hds : field h g kDs = some ds) (hdm : field h g kDims = some dm) (k : Nat)
    (h1 : k ≠ kDs) (h2 : k ≠ kDims) : field (copyGrid h g).1 (copyGrid h g).2 k = none := by
  rw [copyGrid_eq hc hds hdm, field_new]
  simp only [look, if_neg (Ne.symm h1), if_neg (Ne.symm h2)]

/-- no cache of the original (nor anything else of it) is reachable from the copy, and vice versa -/
theorem copy_reaches_no_cache {h : Heap} {g ds dm : Nat} {c : Cell} (wf : WF h) (hc : h[g]? = some c)
    (hds : field h g kDs = some ds) (hdm : field h g kDims = some dm) {k t : Nat}
    (_hk : field h g k = some t) {x : Nat} (hx : Reach (copyGrid h g).1 g x) :
    ¬ Reach (copyGrid h g).1 (copyGrid h g).2 x :=
  fun hy => (copy_disjoint wf hc hds hdm).1.sep x hx hy

/-- **grid_copy_independent_caches**: after `c = g.copy()`, ANY history of dataset mutators AND
    cache operations (filling a tree / GeoDataFrame cache with an object that refers back to its
    grid, switching a tree in place, dropping a cache) on one side leaves everything the other side
    reaches — including its caches — untouched. -/
theorem grid_copy_independent_caches {h : Heap} {g ds dm : Nat} {c : Cell} (wf : WF h)
    (hc : h[g]? = some c) (hds : field h g kDs = some ds) (hdm : field h g kDims = some dm)
    (ops : List GridOp) :
    Frame (copyGrid h g).1 (runActs (copyGrid h g).1 (copyGrid h g).2 (ops.flatMap GridOp.acts)) g ∧
    Frame (copyGrid h g).1 (runActs (copyGrid h g).1 g (ops.flatMap GridOp.acts)) (copyGrid h g).2 :=
  copy_independent (copy_disjoint wf hc hds hdm).1 _

/-- **regression witness** (`grid._ball_tree = self._ball_tree` in `copy()`): a handed-over cache is
    reached by both grids, and when the helper object refers back to its grid (as `BallTree` does)
    the copy reaches the ORIGINAL GRID itself. -/
theorem handover_copy_shares {h : Heap} {g ds dm k t : Nat} {c : Cell} {keys : List Nat}
    (hc : h[g]? = some c) (hds : field h g kDs = some ds) (hdm : field h g kDims = some dm)
    (hk : field h g k = some t) (hin : k ∈ keys) (h1 : k ≠ kDs) (h2 : k ≠ kDims) :
    Reach (copyGridHandOver h g keys).1 g t ∧
    Reach (copyGridHandOver h g keys).1 (copyGridHandOver h g keys).2 t ∧
    ¬ Sep (copyGridHandOver h g keys).1 g (copyGridHandOver h g keys).2 ∧
    (field h t kSrc = some g →
      Reach (copyGridHandOver h g keys).1 (copyGridHandOver h g keys).2 g) := by
  have hkt : (k, t) ∈ c.refs := by
    obtain ⟨c', hc', hm⟩ := field_mem hk
    rw [hc] at hc'; cases hc'; exact hm
  simp only [copyGridHandOver, hc, hds, hdm]
  generalize hcell : (⟨c.data, [(kDs, ds + h.length), (kDims, dm + h.length)] ++
    c.refs.filter (fun p => keys.contains p.1 && p.1 != kDs && p.1 != kDims)⟩ : Cell) = cell
  have low : LowSame h (dup h ++ [cell]) := by
    rw [dup, List.append_assoc]; exact lowSame_append _ _
  have r1 : Reach (dup h ++ [cell]) g t := reach_mono low (Reach.step Reach.refl (field_succs hk))
  have r2 : Reach (dup h ++ [cell]) (2 * h.length) t := by
    refine Reach.step Reach.refl (mem_succs.mpr ⟨cell, ?_, k, ?_⟩)
    · rw [← length_dup, List.getElem?_concat_length]
    · subst hcell
      refine List.mem_append_right _ (List.mem_filter.mpr ⟨hkt, ?_⟩)
      simp [hin, h1, h2]
  exact ⟨r1, r2, shared_not_sep r1 r2,
    fun hsrc => reach_trans r2 (reach_mono low (Reach.step Reach.refl (field_succs hsrc)))⟩

/-! ## exports -/

/-- **export_disjoint (`to_xarray("ugrid")`, `encode_as("UGRID")`, repaired)**: the returned dataset
    shares no cell with the grid and the grid is untouched by exporting. -/
theorem export_disjoint_ugrid {h : Heap} {g ds : Nat} (topo : Nat) (wf : WF h) (hg : g < h.length)
    (hds : field h g kDs = some ds) :
    Inv (exportUgrid h g topo).1 g (exportUgrid h g topo).2 ∧ Frame h (exportUgrid h g topo).1 g := by
  have hdsl : ds < h.length := wf g ds (field_succs hds)
  simp only [exportUgrid, hds]
  obtain ⟨i0, f0⟩ := block_fresh wf (dup_block wf) hg (Nat.le_add_left h.length ds)
    (by rw [length_dup]; omega)
  obtain ⟨f1, i1⟩ := act_preserves (inv_symm i0) (.fresh [] (kVar topo) [-1] [])
  exact ⟨inv_symm i1, frame_trans f0 f1⟩

/-- **export_disjoint (value exporters)**: `to_xarray("exodus"|"scrip")`, `to_polycollection`
    (deep copy of its cache), `to_geodataframe(cache=False)` return a freshly built object. -/
theorem export_disjoint_fresh (h : Heap) (vs : List VarSpec) (attrs : List Int) (wf : WF h)
    {g : Nat} (hg : g < h.length) :
    Inv (exportFresh h vs attrs).1 g (exportFresh h vs attrs).2 ∧ Frame h (exportFresh h vs attrs).1 g := by
  unfold exportFresh
  have na : ∀ v ∈ vs.map (fun v => { v with alias := none }), v.alias = none := by
    intro v hv
    obtain ⟨w, _, rfl⟩ := List.mem_map.mp hv
    rfl
  obtain ⟨e, r1, r2⟩ := allocDs_block _ attrs (Nat.le_refl h.length) (alias_some_elim na)
  exact block_fresh wf e hg r1 r2

/-- **export_independent**: the caller may apply ANY history of edits to a separated export
    (in-place writes, new variables, attribute edits, deletions): everything the grid reaches
    stays as it was — and whatever the grid does later leaves the export untouched. -/
theorem export_independent {h : Heap} {g e : Nat} (inv : Inv h g e) (edits : List Mut) (ms : List Mut) :
    Frame h (runActs h e (edits.flatMap Mut.actsDs)) g ∧
    Frame h (runActs h g (ms.flatMap Mut.actsGrid)) e :=
  ⟨(copy_independent inv _).1, (copy_independent inv _).2⟩

/-- **as the code stands**: the first `to_xarray("ugrid")` returns `Grid._ds` itself -/
theorem asis_export_ugrid_returns_internal {h : Heap} {g ds : Nat} (topo : Nat)
    (hds : field h g kDs = some ds) :
    (exportUgridAsIs h g topo).2 = ds ∧ Reach h g (exportUgridAsIs h g topo).2 := by
  simp only [exportUgridAsIs, hds, true_and]
  exact Reach.step Reach.refl (field_succs hds)

/-- **as the code stands (known finding)**: `to_geodataframe` / `to_linecollection` hand out the
    object kept in the grid's cache — the grid reaches what the caller holds, always. -/
theorem asis_export_cached_shares {h : Heap} {g k : Nat} {c : Cell} (content : List Int)
    (hc : h[g]? = some c) :
    Reach (exportCached h g k content).1 g (exportCached h g k content).2 := by
  unfold exportCached
  cases hf : field h g k with
  | some e => exact Reach.step Reach.refl (field_succs hf)
  | none =>
    simp only [hc, applyAct, follow]
    refine Reach.step Reach.refl (mem_succs.mpr ⟨_, getElem?_upd_at (cell_lt hc), k, ?_⟩)
    exact List.mem_cons_self ..


/-! ## the driver's checkers -/

def verdictHolds (h : Heap) (a b : Nat) : Verdict → Prop
  | .sep => Sep h a b
  | .shared x _ _ => Reach h a x ∧ Reach h b x
  | .unknown => True

theorem judge_certified {h : Heap} {a b : Nat} {v : Verdict} (e : judge h a b = v) :
    verdictHolds h a b v := by
  unfold judge at e
  generalize reachList h a = RA at e
  generalize reachList h b = RB at e
  simp only at e
  split at e
  · split at e
    · split at e
      · next hc => subst e; exact ⟨follow_reach hc.1, follow_reach hc.2⟩
      · subst e; trivial
    · subst e; trivial
  · split at e
    · next hc =>
      -- two closed sets around the roots, disjoint
      subst e
      simp only [Bool.and_eq_true] at hc
      obtain ⟨⟨⟨⟨ha, hb⟩, cA⟩, cB⟩, dj⟩ := hc
      intro x hxa hxb
      have mA := closedB_sound cA (List.contains_iff_mem.mp ha) hxa
      have mB := closedB_sound cB (List.contains_iff_mem.mp hb) hxb
      have := List.all_eq_true.mp dj x mA
      rw [List.contains_iff_mem.mpr mB] at this
      cases this
    · subst e; trivial

/-- `judge … = sep` is a proof that the two objects share no cell -/
theorem judge_sep {h : Heap} {a b : Nat} (e : judge h a b = .sep) : Sep h a b :=
  judge_certified e

/-- `judge … = shared x pa pb` exhibits a cell both objects reach -/
theorem judge_shared {h : Heap} {a b x : Nat} {pa pb : Path} (e : judge h a b = .shared x pa pb) :
    Reach h a x ∧ Reach h b x :=
  judge_certified e

theorem judge_shared_not_sep {h : Heap} {a b x : Nat} {pa pb : Path}
    (e : judge h a b = .shared x pa pb) : ¬ Sep h a b :=
  shared_not_sep (judge_shared e).1 (judge_shared e).2

def frameVHolds (h h' : Heap) (r : Nat) : FrameV → Prop
  | .ok => Frame h h' r
  | .changed _ _ => ¬ Frame h h' r
  | .unknown => True

theorem frameJ_certified {h h' : Heap} {r : Nat} {v : FrameV} (e : frameJ h h' r = v) :
    frameVHolds h h' r v := by
  unfold frameJ at e
  generalize reachList h r = R at e
  simp only at e
  split at e
  · split at e
    · next hc => subst e; exact not_frame_of_follow _ _ hc
    · subst e; trivial
  · split at e
    · next hc =>
      subst e
      simp only [Bool.and_eq_true] at hc
      obtain ⟨⟨hr, cl⟩, al⟩ := hc
      intro x hx
      exact of_decide_eq_true
        (List.all_eq_true.mp al x (closedB_sound cl (List.contains_iff_mem.mp hr) hx))
    · subst e; trivial

/-- `frameJ … = ok` is a proof that nothing the object `r` can reach was modified -/
theorem frameJ_ok {h h' : Heap} {r : Nat} (e : frameJ h h' r = .ok) : Frame h h' r :=
  frameJ_certified e

/-- `frameJ … = changed x p` exhibits a reachable cell that was modified -/
theorem frameJ_changed {h h' : Heap} {r x : Nat} {p : Path} (e : frameJ h h' r = .changed x p) :
    ¬ Frame h h' r :=
  frameJ_certified e

theorem wfB_wf {h : Heap} (e : wfB h = true) : WF h := wfB_sound e

/-! ## non-vacuity and as-is counterexamples on a concrete grid

  `demo`: the caller holds three arrays (lon, lat, connectivity); `from_topology` wraps lon/lat
  without copying and stores a processed copy of the connectivity (padded with `INT_FILL_VALUE`).
  Addresses: 0–2 the arrays, 4 6 9 the Variables, 11 Dataset, 13 Grid; a cache goes to 14, 15.
  `demoDs`: 2 5 the Variables, 7 Dataset. -/

def demoInputs : Heap := [⟨[200, 10], []⟩, ⟨[5, 6], []⟩, ⟨[1, 2, 3, -1], []⟩]
def demoVars : List VarSpec :=
  [⟨0, [], [7], some 0⟩, ⟨1, [], [8], some 1⟩, ⟨2, [0, 1, 2, -9223372036854775808], [9], none⟩]
def demo : Heap × Nat := build demoInputs demoVars [42] [1]

example : wfB demoInputs = true := by decide
example : wfB demo.1 = true ∧ demo.2 < demo.1.length := by decide +kernel
/-- construct_readonly is not vacuous: the inputs exist, are reachable from the grid (zero-copy)
    and are untouched -/
example : frameJ demoInputs demo.1 0 = .ok ∧ frameJ demoInputs demo.1 2 = .ok ∧
    (judge demo.1 0 demo.2 = .shared 0 [] [kDs, kVar 0, kData]) := by decide +kernel
/-- as the code stands the connectivity array of the caller is rewritten -/
example : frameJ demoInputs (buildAsIs demoInputs 2 [0, 1, 2, -9223372036854775808] demoVars [42] [1]).1 2
    = .changed 2 [] := by decide +kernel

/-- the hypotheses of `copy_disjoint` are met by `demo` -/
example : (demo.1[demo.2]?).isSome ∧ (field demo.1 demo.2 kDs).isSome ∧
    (field demo.1 demo.2 kDims).isSome := by decide +kernel
/-- repaired copy: separated (verdict of the verified checker) -/
example : judge (copyGrid demo.1 demo.2).1 demo.2 (copyGrid demo.1 demo.2).2 = .sep := by
  decide +kernel
/-- the copy's dataset holds the same longitude payload as the original's -/
example : (follow (copyGrid demo.1 demo.2).1 (copyGrid demo.1 demo.2).2 [kDs, kVar 0, kData]).bind
      (fun a => ((copyGrid demo.1 demo.2).1[a]?).map Cell.data) = some [200, 10] := by decide +kernel

/-- a history on the copy: derive a variable, write a buffer in place, rebind data, edit attrs, delete -/
def demoHistory : List Mut :=
  [.setVar 5 [1, 1] [3], .writeVar 0 [0, 0], .rebind 1 [9, 9], .varAttr 2 [4], .dsAttr [5], .delVar 1]

/-- … changes the copy (so the history is not a no-op) and leaves the original untouched -/
example :
    let hc := copyGrid demo.1 demo.2
    let h2 := runActs hc.1 hc.2 (demoHistory.flatMap Mut.actsGrid)
    frameJ hc.1 h2 demo.2 = .ok ∧ frameJ hc.1 h2 hc.2 ≠ .ok ∧ judge h2 demo.2 hc.2 = .sep := by
  decide +kernel

/-- **as the code stands** `Grid.copy()` is not independent: deriving a variable on the copy
    (or writing a value in place) changes what the original reaches. -/
theorem asis_copy_not_independent :
    let hc := copyGridAsIs demo.1 demo.2
    ¬ Frame hc.1 (runActs hc.1 hc.2 ((Mut.setVar 5 [1, 1] [3]).actsGrid)) demo.2 ∧
    ¬ Frame hc.1 (runActs hc.1 hc.2 ((Mut.writeVar 0 [0, 0]).actsGrid)) demo.2 := by
  refine ⟨not_frame_of_follow [kDs] 11 (by decide +kernel),
          not_frame_of_follow [kDs, kVar 0, kData] 0 (by decide +kernel)⟩

/-- a grid whose nearest-neighbour trees were built before it is copied -/
def demoTrees : Heap × Nat :=
  (runActs demo.1 demo.2 ((CacheOp.fill kBall [1]).acts ++ (CacheOp.fill kKd [2]).acts), demo.2)

/-- the trees exist, refer back to the grid, and the hypotheses of `handover_copy_shares` are met -/
example : (field demoTrees.1 demoTrees.2 kBall).isSome ∧
    (follow demoTrees.1 demoTrees.2 [kBall, kSrc] = some demoTrees.2) ∧ wfB demoTrees.1 = true := by
  decide +kernel
/-- repaired copy of a grid with caches: separated, caches of the copy empty; switching the
    original's tree and replacing its face centres leaves the copy untouched -/
example :
    let hc := copyGrid demoTrees.1 demoTrees.2
    let ops : List GridOp := [.cache (.switch kBall [9]), .data (.setVar 7 [5, 5] [3]), .cache (.fill kGdf [4])]
    let h2 := runActs hc.1 demoTrees.2 (ops.flatMap GridOp.acts)
    judge hc.1 demoTrees.2 hc.2 = .sep ∧ field hc.1 hc.2 kBall = none ∧
    frameJ hc.1 h2 hc.2 = .ok ∧ frameJ hc.1 h2 demoTrees.2 ≠ .ok := by
  decide +kernel
/-- handing the trees over: shared, and switching the original's tree is seen through the copy -/
theorem handover_copy_not_independent :
    let hc := copyGridHandOver demoTrees.1 demoTrees.2 [kBall, kKd]
    judge hc.1 demoTrees.2 hc.2 ≠ .sep ∧
    ¬ Frame hc.1 (runActs hc.1 demoTrees.2 ((CacheOp.switch kBall [9]).acts)) hc.2 := by
  refine ⟨fun e => judge_sep e 14 (follow_reach (p := [kBall]) (by decide +kernel))
            (follow_reach (p := [kBall]) (by decide +kernel)),
          not_frame_of_follow [kBall] 14 (by decide +kernel)⟩

/-- repaired export: separated, and caller edits do not reach the grid -/
example :
    let he := exportUgrid demo.1 demo.2 9
    let h2 := runActs he.1 he.2 (demoHistory.flatMap Mut.actsDs)
    judge he.1 demo.2 he.2 = .sep ∧ frameJ he.1 h2 demo.2 = .ok ∧ frameJ he.1 h2 he.2 ≠ .ok := by
  decide +kernel

/-- **as the code stands** the exported dataset is the grid's dataset: exporting already adds
    `grid_topology` to the grid, and a caller edit of the export is an edit of the grid. -/
theorem asis_export_not_independent :
    let he := exportUgridAsIs demo.1 demo.2 9
    he.2 = 11 ∧ ¬ Frame demo.1 he.1 demo.2 ∧
    ¬ Frame he.1 (runActs he.1 he.2 ((Mut.writeVar 0 [0, 0]).actsDs)) demo.2 := by
  refine ⟨by decide +kernel, not_frame_of_follow [kDs] 11 (by decide +kernel),
          not_frame_of_follow [kDs, kVar 0, kData] 0 (by decide +kernel)⟩

/-- **known finding** cached exporters: an edit of the returned object is seen through the grid -/
theorem asis_cached_export_not_independent :
    let he := exportCached demo.1 demo.2 kGdf [77]
    ¬ Frame he.1 (runActs he.1 he.2 ((Mut.writeRoot [78]).actsDs)) demo.2 ∧
    (exportCached he.1 demo.2 kGdf [77]).2 = he.2 := by
  refine ⟨not_frame_of_follow [kGdf] 14 (by decide +kernel), by decide +kernel⟩

/-- a caller's dataset with a longitude above 180 -/
def demoDs : Heap × Nat := allocDs [] [⟨0, [200, 10], [7], none⟩, ⟨2, [0, 1, 2], [9], none⟩] [42]

/-- **known finding** adopted dataset with a longitude above 180: construction rebinds the
    `node_lon` data of the caller's dataset, and a later derivation on the grid adds a variable to it. -/
theorem asis_adopt_writes_input :
    let ha := adopt demoDs.1 demoDs.2 0 (some [-160, 10]) [1]
    ¬ Frame demoDs.1 ha.1 demoDs.2 ∧
    ¬ Frame ha.1 (runActs ha.1 ha.2 ((Mut.setVar 5 [1, 1] [3]).actsGrid)) demoDs.2 := by
  refine ⟨not_frame_of_follow [kVar 0] 2 (by decide +kernel),
          not_frame_of_follow [] 7 (by decide +kernel)⟩

/-- repaired adoption of `demoDs` with a longitude to re-wrap: the caller's dataset is untouched by
    construction and by a history of library operations, the grid really changed, and the one
    excluded operation (an in-place write through the shared array) does reach the caller — zero-copy -/
example :
    let ha := adoptShallow demoDs.1 demoDs.2 0 (some [-160, 10]) [1]
    let ops : List GridOp := [.data (.setVar 5 [1, 1] [3]), .data (.rebind 2 [4]), .data (.varAttr 0 [6]),
      .data (.dsAttr [5]), .cache (.fill kBall [1]), .cache (.switch kBall [2]), .data (.delVar 2)]
    let h2 := runActs ha.1 ha.2 (ops.flatMap GridOp.acts)
    frameJ demoDs.1 ha.1 demoDs.2 = .ok ∧ frameJ demoDs.1 h2 demoDs.2 = .ok ∧ frameJ ha.1 h2 ha.2 ≠ .ok ∧
    frameJ ha.1 (runActs ha.1 ha.2 (Mut.writeVar 2 [7, 7, 7]).actsGrid) demoDs.2 ≠ .ok := by
  decide +kernel

end UxVerif.C19
