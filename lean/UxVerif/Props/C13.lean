/-
  C13 — Face latitude–longitude bounds enclose the face and are tight.
  Theorems about `Model/Bounds.lean`, for every sequence of inserted points, every list of edges
  and every great-circle arc shorter than half a turn.

  §A  the box (any ordered field): an insertion contains its point and only grows the box
      (`insert_contains`, `insert_grows`, `box_contains_all_inserted`); for longitudes inside a
      window narrower than half a turn, wrapping through 0 or not, the interval is the arc from the
      first to the last point of the window, whatever the order, and no covering arc is narrower
      (`insert_minimal`, `insert_order_irrelevant`, `insert_minimal_shortest`).
  §B  the loops: the repaired normal-face loop encloses corners and arc extremes, and its latitude
      bounds are attained (`lat_encloses_nodes`, `lat_bounds_attained`); the as-is loops and the
      as-is pole flag fail on concrete faces (`asis_*`, decided over `Int`); both pole loops
      enclose the corners (`pole_loop_encloses_nodes`, `pole_face_partial`).
  §C  the arc: the code's `d_a_max` is the stationary parameter and its point the apex of the great
      circle (`extreme_param_stationary`, `apex_attains_bound`, `arc_below_apex`); without an
      interior apex the end points bound the arc (`arc_le_endpoints`, `arc_ge_endpoints`); hence the
      exact `extreme_gca_latitude` encloses every arc point (`extreme_encloses_arc`,
      `lat_encloses_every_arc_point`; `straddling_arc_not_monotone` shows the apex is needed).
  §D  the repaired pole flag is the winding of the boundary about the polar axis
      (`winding_multiple_of_two_pi`, `pole_flag_iff_winding`, `winding_rule_of_left`); the corners'
      mean latitude is no criterion (`meanz_rule_wrong`, `winding_rule_right`).

  Not proved; decided by the driver's sampling oracle on every generated face:
  * the winding number of a convex face is ±1 exactly when a pole is strictly inside, and the
    orientation test then picks the right pole (argument principle for the projected polygon);
  * the corner longitudes of a face span its boundary (longitude is monotone along an arc that
    misses the poles);
  * tightness by attainment for pole faces and for the longitude ends (for the latitude bounds of
    normal faces it is `lat_bounds_attained`);
  * IEEE rounding and the `ERROR_TOLERANCE` clip / pole snap of the float code.
-/
import Mathlib.Analysis.SpecialFunctions.Complex.Arg
import Mathlib.Tactic.LinearCombination
import UxVerif.Model.Bounds

namespace UxVerif.C13
open UxVerif UxVerif.Bounds

/-- invariant of a fold: what every step keeps holds at the end -/
theorem foldl_keeps {σ α : Type} (step : σ → α → σ) (P : σ → Prop) (l : List α)
    (hkeep : ∀ s, ∀ x ∈ l, P s → P (step s x)) (s : σ) (h : P s) : P (l.foldl step s) := by
  induction l generalizing s with
  | nil => exact h
  | cons x xs ih =>
    exact ih (fun s y hy => hkeep s y (List.mem_cons_of_mem _ hy)) _ (hkeep s x List.mem_cons_self h)

/-- what the step for one member `a` of the list establishes, and every step keeps, holds at the end -/
theorem foldl_establishes {σ α : Type} (step : σ → α → σ) (P : σ → Prop) (a : α)
    (hest : ∀ s, P (step s a)) (hkeep : ∀ s x, P s → P (step s x)) (l : List α) (s : σ)
    (ha : a ∈ l) : P (l.foldl step s) := by
  induction l generalizing s with
  | nil => cases ha
  | cons x xs ih =>
    rcases List.mem_cons.mp ha with rfl | h
    · exact foldl_keeps step P xs (fun s y _ => hkeep s y) _ (hest s)
    · exact ih _ h

/-! ## §A the box -/
section order
variable {K : Type} [LinearOrder K]

theorem minK_eq_min (a b : K) : minK a b = min a b := by
  unfold minK; split
  · exact (min_eq_right (le_of_lt ‹_›)).symm
  · exact (min_eq_left (not_lt.mp ‹_›)).symm
theorem maxK_eq_max (a b : K) : maxK a b = max a b := minK_eq_min (K := Kᵒᵈ) a b
theorem minK_le_left (a b : K) : minK a b ≤ a := minK_eq_min a b ▸ min_le_left a b
theorem minK_le_right (a b : K) : minK a b ≤ b := minK_eq_min a b ▸ min_le_right a b
theorem le_maxK_left (a b : K) : a ≤ maxK a b := maxK_eq_max a b ▸ le_max_left a b
theorem le_maxK_right (a b : K) : b ≤ maxK a b := maxK_eq_max a b ▸ le_max_right a b

theorem growLat_contains (o : Option (K × K)) (x : K) :
    InLat (growLat o x).1 (growLat o x).2 x := by
  rcases o with _ | ⟨lo, hi⟩
  · exact ⟨le_refl _, le_refl _⟩
  · exact ⟨minK_le_right _ _, le_maxK_right _ _⟩

theorem growLat_grows (lo hi x y : K) (h : InLat lo hi y) :
    InLat (growLat (some (lo, hi)) x).1 (growLat (some (lo, hi)) x).2 y :=
  ⟨le_trans (minK_le_left _ _) h.1, le_trans h.2 (le_maxK_left _ _)⟩

theorem inLon_ends (lo hi : K) : InLon lo hi lo ∧ InLon lo hi hi := by
  unfold InLon; split
  · exact ⟨⟨le_refl _, ‹_›⟩, ‹_›, le_refl _⟩
  · exact ⟨Or.inl (le_refl _), Or.inr (le_refl _)⟩

theorem lonOutside_iff (lo hi x : K) : lonOutside lo hi x = true ↔ ¬ InLon lo hi x := by
  unfold lonOutside InLon
  by_cases h : lo ≤ hi
  · simp only [h, not_lt.mpr h, decide_true, decide_false, Bool.false_and, Bool.true_and,
      Bool.false_or, if_true, Bool.not_eq_true', Bool.and_eq_false_iff, decide_eq_false_iff_not,
      not_and_or]
  · simp only [h, not_le.mp h, decide_true, decide_false, Bool.false_and, Bool.true_and,
      Bool.or_false, if_false, Bool.and_eq_true, decide_eq_true_eq, not_or, not_le]

/-- stretching an interval to a point outside it, at either end, loses nothing -/
theorem inLon_extend (lo hi x y : K) (hx : ¬ InLon lo hi x) (hy : InLon lo hi y) :
    InLon x hi y ∧ InLon lo x y := by
  unfold InLon at *
  by_cases h : lo ≤ hi
  · rw [if_pos h] at hx hy
    have hx' : x < lo ∨ hi < x := by
      rcases lt_or_ge x lo with h1 | h1
      · exact Or.inl h1
      · exact Or.inr (not_le.mp fun h2 => hx ⟨h1, h2⟩)
    constructor
    · split
      · exact ⟨(hx'.resolve_right (not_lt.mpr ‹_›)).le.trans hy.1, hy.2⟩
      · exact Or.inr hy.2
    · split
      · exact ⟨hy.1, hy.2.trans (hx'.resolve_left (not_lt.mpr ‹_›)).le⟩
      · exact Or.inl hy.1
  · rw [if_neg h] at hx hy
    obtain ⟨h1, h2⟩ := not_or.mp hx
    rw [if_neg h2, if_neg h1]
    exact ⟨hy.imp_left (not_le.mp h1).le.trans, hy.imp_right fun h => h.trans (not_le.mp h2).le⟩

theorem foldl_min_mem_le (l : List K) (x : K) : l.foldl min x ∈ x :: l ∧ l.foldl min x ≤ x := by
  induction l generalizing x with
  | nil => exact ⟨List.mem_cons_self, le_rfl⟩
  | cons y t ih =>
    obtain ⟨hm, hle⟩ := ih (min x y)
    refine ⟨?_, hle.trans (min_le_left x y)⟩
    rcases List.mem_cons.mp hm with h | h
    · rw [List.foldl_cons, h]
      rcases min_choice x y with e | e <;> rw [e]
      · exact List.mem_cons_self
      · exact List.mem_cons_of_mem _ List.mem_cons_self
    · exact List.mem_cons_of_mem _ (List.mem_cons_of_mem _ h)
theorem foldl_max_mem_ge (l : List K) (x : K) : l.foldl max x ∈ x :: l ∧ x ≤ l.foldl max x :=
  foldl_min_mem_le (K := Kᵒᵈ) l x

theorem has_iff (b : Box K) (la lo : K) : b.Has la lo ↔ b.HasLat la ∧ b.HasLon lo := Iff.rfl

end order

section interval
variable {K : Type} [Field K] [LinearOrder K]

theorem growLon_contains (twoPi : K) (o : Option (K × K)) (x : K) :
    InLon (growLon twoPi o x).1 (growLon twoPi o x).2 x := by
  rcases o with _ | ⟨lo, hi⟩
  · exact (inLon_ends x x).1
  · simp only [growLon]
    split
    · split
      · exact (inLon_ends x hi).1
      · exact (inLon_ends lo x).2
    · exact not_not.mp ((lonOutside_iff lo hi x).not.mp ‹_›)

theorem growLon_grows (twoPi lo hi x y : K) (h : InLon lo hi y) :
    InLon (growLon twoPi (some (lo, hi)) x).1 (growLon twoPi (some (lo, hi)) x).2 y := by
  simp only [growLon]
  split
  · have hxy := inLon_extend lo hi x y ((lonOutside_iff lo hi x).mp ‹_›) h
    split
    · exact hxy.1
    · exact hxy.2
  · exact h

theorem insert_at_grows_lat (c : Consts K) (b : Box K) (la lo y : K) (h : b.HasLat y) :
    (insertPt c b (.at la lo)).HasLat y := by
  obtain ⟨⟨l, u⟩, hb, hin⟩ := h
  exact ⟨_, rfl, hb ▸ growLat_grows l u la y hin⟩

/-- a pole point sets a bound to `±π/2`, so the covered latitude has to be a latitude:
    `−π/2 ≤ y ≤ π/2` -/
theorem insert_grows_lat (c : Consts K) (b : Box K) (p : Pt K) (y : K)
    (hy : -c.halfPi ≤ y ∧ y ≤ c.halfPi) (h : b.HasLat y) : (insertPt c b p).HasLat y := by
  cases p with
  | «at» la l => exact insert_at_grows_lat c b la l y h
  | pole north =>
    obtain ⟨⟨lo, hi⟩, hb, hin⟩ := h
    simp only [insertPt, hb]
    cases north
    · exact ⟨_, rfl, ⟨hy.1, hin.2⟩⟩
    · exact ⟨_, rfl, ⟨hin.1, hy.2⟩⟩

theorem insert_grows_lon (c : Consts K) (b : Box K) (p : Pt K) (y : K)
    (h : b.HasLon y) : (insertPt c b p).HasLon y := by
  obtain ⟨⟨lo, hi⟩, hb, hin⟩ := h
  cases p with
  | «at» la l => exact ⟨_, rfl, hb ▸ growLon_grows c.twoPi lo hi (c.norm l) y hin⟩
  | pole north =>
    simp only [insertPt]
    cases b.lat <;> exact ⟨_, hb, hin⟩

theorem insert_at_keeps (c : Consts K) (b : Box K) (x y la lo : K)
    (h : b.HasLat la ∧ b.HasLon lo) :
    (insertPt c b (.at x y)).HasLat la ∧ (insertPt c b (.at x y)).HasLon lo :=
  ⟨insert_at_grows_lat c b x y la h.1, insert_grows_lon c b _ lo h.2⟩

theorem lonWidth_self (T x : K) : lonWidth T x x = 0 := by
  unfold lonWidth; rw [if_pos (le_refl x), sub_self]

theorem lonWidth_add_swap (T : K) {x y : K} (h : x ≠ y) : lonWidth T x y + lonWidth T y x = T := by
  unfold lonWidth
  rcases lt_or_gt_of_ne h with h | h
  · rw [if_pos h.le, if_neg (not_le.mpr h)]; ring
  · rw [if_neg (not_le.mpr h), if_pos h.le]; ring

theorem lonWidth_split (T : K) {lo hi x : K} (h : InLon lo hi x) :
    lonWidth T lo x + lonWidth T x hi = lonWidth T lo hi := by
  unfold InLon at h
  unfold lonWidth
  by_cases hle : lo ≤ hi
  · rw [if_pos hle] at h
    rw [if_pos h.1, if_pos h.2, if_pos hle]; ring
  · rw [if_neg hle] at h
    rcases h with h | h
    · rw [if_pos h, if_neg (fun hc => hle (h.trans hc)), if_neg hle]; ring
    · rw [if_neg (fun hc => hle (hc.trans h)), if_pos h, if_neg hle]; ring

end interval

section box
variable {K : Type} [Field K] [LinearOrder K] [IsStrictOrderedRing K]

-- stated with the binders common to the section, of which it needs fewer
set_option linter.unusedSectionVars false in
/-- after `_insert_pt_in_latlonbox(box, [lat, lon])` the point is in the box -/
theorem insert_contains (c : Consts K) (b : Box K) (la lo : K) :
    (insertPt c b (.at la lo)).Has la (c.norm lo) :=
  ⟨⟨_, rfl, growLat_contains _ _⟩, ⟨_, rfl, growLon_contains _ _ _⟩⟩

set_option linter.unusedSectionVars false in
/-- a point of the box stays in the box -/
theorem insert_grows (c : Consts K) (b : Box K) (p : Pt K) (la lo : K)
    (hy : -c.halfPi ≤ la ∧ la ≤ c.halfPi) (h : b.Has la lo) : (insertPt c b p).Has la lo :=
  (has_iff _ _ _).mpr ⟨insert_grows_lat c b p la hy h.1, insert_grows_lon c b p lo h.2⟩

/-- for ANY sequence of inserted points (pole points included, from
    any starting box) every inserted `[lat, lon]` is inside the final box. -/
theorem box_contains_all_inserted (c : Consts K) (pts : List (Pt K)) (b : Box K) (la lo : K)
    (hy : -c.halfPi ≤ la ∧ la ≤ c.halfPi) (hmem : Pt.at la lo ∈ pts) :
    (pts.foldl (insertPt c) b).Has la (c.norm lo) :=
  foldl_establishes (insertPt c) (fun b => b.Has la (c.norm lo)) (.at la lo)
    (fun b => insert_contains c b la lo) (fun b p => insert_grows c b p la _ hy) pts b hmem

/-- non-vacuity: three points, the last wraps the interval through 0 -/
example : ([Pt.at (10 : ℚ) 350, Pt.at 20 355, Pt.at 15 5].foldl
    (insertPt ⟨90, 360, id⟩) Box.empty).Has 20 355 :=
  box_contains_all_inserted ⟨90, 360, id⟩ _ _ 20 355 (by norm_num) (by simp)

end box

/-! ### minimality of the longitude interval, through the eastward distance `lonWidth T x y` -/
section minimal
variable {K : Type} [Field K] [LinearOrder K] [IsStrictOrderedRing K]

/-- the longitude at arc-offset `o` from the window start `s` (period `T`) -/
def pos (T s o : K) : K := if s + o < T then s + o else s + o - T

theorem lonWidth_nonneg {T lo x : K} (hlo : lo ≤ T) (hx : 0 ≤ x) : 0 ≤ lonWidth T lo x := by
  unfold lonWidth; split
  · exact sub_nonneg.mpr ‹_›
  · exact add_nonneg (sub_nonneg.mpr hlo) hx

/-- for longitudes in `[0, T)`, membership in `[lo, hi]` compares eastward distances from `lo` -/
theorem inLon_iff_width {T hi x : K} (lo : K) (hx : 0 ≤ x ∧ x < T) (hhi : 0 ≤ hi ∧ hi < T) :
    InLon lo hi x ↔ lonWidth T lo x ≤ lonWidth T lo hi := by
  unfold InLon lonWidth
  by_cases h : lo ≤ hi <;> by_cases h' : lo ≤ x <;>
    simp only [h, h', if_true, if_false, true_and, false_and, true_or, false_or, true_iff, false_iff,
      not_le, sub_le_sub_iff_right, add_le_add_iff_left]
  · exact lt_of_lt_of_le (sub_lt_sub_right hhi.2 lo) (le_add_of_nonneg_right hx.1)
  · exact le_trans (sub_le_sub_right hx.2.le lo) (le_add_of_nonneg_right hhi.1)

omit [IsStrictOrderedRing K] in
theorem pos_cases (T s o : K) :
    (s + o < T ∧ pos T s o = s + o) ∨ (T ≤ s + o ∧ pos T s o = s + o - T) := by
  unfold pos
  by_cases h : s + o < T
  · exact Or.inl ⟨h, if_pos h⟩
  · exact Or.inr ⟨not_lt.mp h, if_neg h⟩

/-- an arc inside a window of length `L < T/2` is shorter than the complement of any other -/
theorem short_lt_long {T L x y : K} (hL : 2 * L < T) (hx : x ≤ L) (hy : y ≤ L) : x < T - y :=
  lt_of_le_of_lt hx (lt_of_lt_of_le (lt_sub_iff_add_lt.mpr (two_mul L ▸ hL)) (sub_le_sub_left hy T))

theorem pos_range {T s o : K} (hs0 : 0 ≤ s) (hsT : s < T) (h0 : 0 ≤ o) (hT : o < T) : 0 ≤ pos T s o ∧ pos T s o < T := by
  rcases pos_cases T s o with ⟨c, e⟩ | ⟨c, e⟩ <;> rw [e]
  · exact ⟨add_nonneg hs0 h0, c⟩
  · exact ⟨sub_nonneg.mpr c, sub_lt_iff_lt_add.mpr (add_lt_add hsT hT)⟩

/-- eastward between two window points: the difference of their offsets -/
theorem width_fwd {T o1 o2 : K} (s : K) (h1 : 0 ≤ o1) (h12 : o1 ≤ o2) (h2 : o2 < T) :
    lonWidth T (pos T s o1) (pos T s o2) = o2 - o1 := by
  have hs12 := (add_le_add_iff_left s).mpr h12
  unfold lonWidth
  rcases pos_cases T s o1 with ⟨c1, e1⟩ | ⟨c1, e1⟩ <;> rcases pos_cases T s o2 with ⟨c2, e2⟩ | ⟨c2, e2⟩ <;>
    rw [e1, e2]
  · rw [if_pos hs12, add_sub_add_left_eq_sub]
  · -- only the second point is past `T`
    rw [if_neg (not_le.mpr (sub_lt_iff_lt_add.mpr (by
      rw [add_assoc]; exact (add_lt_add_iff_left s).mpr (h2.trans_le (le_add_of_nonneg_left h1)))))]
    ring
  · exact absurd (c1.trans hs12) (not_le.mpr c2)
  · rw [if_pos (sub_le_sub_right hs12 T), sub_sub_sub_cancel_right, add_sub_add_left_eq_sub]

/-- westward: the rest of the circle -/
theorem width_bwd {T o1 o2 : K} (s : K) (h2 : 0 ≤ o2) (h21 : o2 < o1) (h1 : o1 < T) :
    lonWidth T (pos T s o1) (pos T s o2) = T - (o1 - o2) := by
  have hf := width_fwd s h2 h21.le h1
  have hne : pos T s o1 ≠ pos T s o2 := fun e => by
    rw [e, lonWidth_self] at hf; exact (sub_pos.mpr h21).ne hf
  rw [← hf]; exact eq_sub_of_add_eq (lonWidth_add_swap T hne)

/-- One insertion into an interval spanned by two offsets of a window shorter than half a turn.
    Because of that length, both the outside test and the choice of the narrower end reduce, through
    `width_fwd`, `width_bwd` and `short_lt_long`, to comparing offsets. -/
theorem growLon_window_step {T s L a b o : K} (hs0 : 0 ≤ s) (hsT : s < T) (hL : 2 * L < T) (ha : 0 ≤ a) (hab : a ≤ b) (hb : b ≤ L)
    (ho0 : 0 ≤ o) (hoL : o ≤ L) :
    growLon T (some (pos T s a, pos T s b)) (pos T s o)
      = (pos T s (min a o), pos T s (max b o)) := by
  have hb0 := ha.trans hab
  have haL := hab.trans hb
  have hT : ∀ {x}, x ≤ L → x < T := fun hx =>
    (short_lt_long hL hx le_rfl).trans_le (sub_le_self T (ho0.trans hoL))
  have hout : lonOutside (pos T s a) (pos T s b) (pos T s o) = true
      ↔ b - a < lonWidth T (pos T s a) (pos T s o) := by
    rw [lonOutside_iff, inLon_iff_width _ (pos_range hs0 hsT ho0 (hT hoL))
      (pos_range hs0 hsT hb0 (hT hb)), width_fwd s ha hab (hT hb), not_le]
  simp only [growLon]
  rcases lt_or_ge o a with hoa | hao
  · -- west of the interval: the left end moves
    have hw := width_bwd s ho0 hoa (hT haL)
    have hao := (sub_le_self a ho0).trans haL
    rw [hw] at hout
    rw [if_pos (hout.mpr (short_lt_long hL ((sub_le_self b ha).trans hb) hao)), hw,
      width_fwd s ho0 (hoa.le.trans hab) (hT hb),
      if_pos (short_lt_long hL ((sub_le_self b ho0).trans hb) hao),
      min_eq_right hoa.le, max_eq_left (hoa.le.trans hab)]
  · have hw := width_fwd s ha hao (hT hoL)
    rw [hw] at hout
    rcases lt_or_ge b o with hbo | hob
    · -- east of it: the right end moves
      rw [if_pos (hout.mpr (sub_lt_sub_right hbo a)), hw,
        width_bwd s hb0 hbo (hT hoL),
        if_neg (short_lt_long hL ((sub_le_self o ha).trans hoL)
          ((sub_le_self o hb0).trans hoL)).le.not_gt,
        min_eq_left hao, max_eq_right hbo.le]
    · rw [if_neg (fun h => (sub_le_sub_right hob a).not_gt (hout.mp h)), min_eq_left hao,
        max_eq_left hob]

theorem foldl_growLon_window {T s L : K} (hs0 : 0 ≤ s) (hsT : s < T) (hL : 2 * L < T)
    (os : List K) {a b : K} (ha : 0 ≤ a) (hab : a ≤ b) (hb : b ≤ L)
    (hos : ∀ o ∈ os, 0 ≤ o ∧ o ≤ L) :
    (os.map (pos T s)).foldl (fun q x => growLon T (some q) x) (pos T s a, pos T s b)
      = (pos T s (os.foldl min a), pos T s (os.foldl max b)) := by
  induction os generalizing a b with
  | nil => rfl
  | cons o os ih =>
    have ho := hos o List.mem_cons_self
    simp only [List.map_cons, List.foldl_cons]
    rw [growLon_window_step hs0 hsT hL ha hab hb ho.1 ho.2]
    exact ih (le_min ha ho.1) (le_trans (min_le_left _ _) (le_trans hab (le_max_left _ _)))
      (max_le hb ho.2) (fun x hx => hos x (List.mem_cons_of_mem _ hx))

/-- an arc `[lo, hi]` that contains two points of such a window is at least as wide as the arc
    from the first to the second -/
theorem cover_width_ge {T s L lo hi m M : K} (hs0 : 0 ≤ s) (hsT : s < T) (hL : 2 * L < T)
    (hlo : lo < T) (hhi : 0 ≤ hi ∧ hi < T)
    (hm : 0 ≤ m) (hmM : m ≤ M) (hM : M ≤ L)
    (h1 : InLon lo hi (pos T s m)) (h2 : InLon lo hi (pos T s M)) :
    lonWidth T (pos T s m) (pos T s M) ≤ lonWidth T lo hi := by
  have hM0 := hm.trans hmM
  have hMT : M < T := (short_lt_long hL hM le_rfl).trans_le (sub_le_self T (hM0.trans hM))
  rw [width_fwd s hm hmM hMT]
  have rm := pos_range hs0 hsT hm (hmM.trans_lt hMT)
  have rM := pos_range hs0 hsT hM0 hMT
  have w1 := (inLon_iff_width lo rm hhi).mp h1
  have w2 := (inLon_iff_width lo rM hhi).mp h2
  rcases le_total (lonWidth T lo (pos T s m)) (lonWidth T lo (pos T s M)) with h | h
  · -- going east from `lo` the point `m` comes first: `[m, M]` is part of `[lo, hi]`
    have hs := lonWidth_split T ((inLon_iff_width lo rm rM).mpr h)
    rw [width_fwd s hm hmM hMT] at hs
    exact (le_add_of_nonneg_left (lonWidth_nonneg hlo.le rm.1)).trans (hs.le.trans w2)
  · -- `M` comes first: `[lo, hi]` contains the long way round from `M` to `m`
    rcases eq_or_lt_of_le hmM with rfl | hlt
    · rw [sub_self]; exact lonWidth_nonneg hlo.le hhi.1
    · have hs := lonWidth_split T ((inLon_iff_width lo rM rm).mpr h)
      rw [width_bwd s hm hlt hMT] at hs
      have hML := (sub_le_self M hm).trans hM
      exact (short_lt_long hL hML hML).le.trans
        ((le_add_of_nonneg_left (lonWidth_nonneg hlo.le rM.1)).trans (hs.le.trans w1))

/-- minimality, non-wrapping special case stated on the raw longitudes: if every inserted longitude
    lies in a window `[A, B]` narrower than half a turn that does not wrap through 0, the interval is
    exactly `[min, max]` of the inserted longitudes.  (The general statement, wrapping windows
    included, is `insert_minimal` below.) -/
theorem insert_minimal_nowrap (twoPi A B : K) (hA : 0 ≤ A) (hB : B < twoPi)
    (hw : B - A < twoPi / 2) (xs : List K) (lo hi : K)
    (hlo : A ≤ lo) (hlh : lo ≤ hi) (hhi : hi ≤ B) (hxs : ∀ x ∈ xs, A ≤ x ∧ x ≤ B) :
    xs.foldl (fun q x => growLon twoPi (some q) x) (lo, hi)
      = (xs.foldl min lo, xs.foldl max hi) := by
  -- the window starts at `A`; the point at offset `y - A` is `y`
  have e : ∀ y, y ≤ B → pos twoPi A (y - A) = y := fun y hy => by
    unfold pos; rw [add_sub_cancel, if_pos (hy.trans_lt hB)]
  have hL : 2 * (B - A) < twoPi := (lt_div_iff₀' two_pos).mp hw
  have hAT : A < twoPi := (hlo.trans (hlh.trans hhi)).trans_lt hB
  induction xs generalizing lo hi with
  | nil => rfl
  | cons x xs ih =>
    have hx := hxs x List.mem_cons_self
    have step := growLon_window_step hA hAT hL (sub_nonneg.mpr hlo) (sub_le_sub_right hlh A) (sub_le_sub_right hhi A)
      (sub_nonneg.mpr hx.1) (sub_le_sub_right hx.2 A)
    rw [min_sub_sub_right, max_sub_sub_right, e lo (hlh.trans hhi), e hi hhi, e x hx.2,
      e _ ((min_le_left _ _).trans (hlh.trans hhi)), e _ (max_le hhi hx.2)] at step
    rw [List.foldl_cons, step]
    exact ih _ _ (le_min hlo hx.1) ((min_le_left _ _).trans (hlh.trans (le_max_left _ _)))
      (max_le hhi hx.2) (fun y hy => hxs y (List.mem_cons_of_mem _ hy))

example : [(40 : ℚ), 10, 25].foldl (fun q x => growLon 360 (some q) x) (30, 30) = (10, 40) := by
  rw [insert_minimal_nowrap 360 5 50 (by norm_num) (by norm_num) (by norm_num) _ 30 30
    (by norm_num) (by norm_num) (by norm_num) (by norm_num)]
  norm_num

omit [IsStrictOrderedRing K] in
theorem foldl_insertPt_lon (c : Consts K) (pts : List (K × K)) (b : Box K) (q : K × K)
    (hb : b.lon = some q) :
    (pts.foldl (fun b p => insertPt c b (.at p.1 p.2)) b).lon
      = some ((pts.map fun p => c.norm p.2).foldl (fun q x => growLon c.twoPi (some q) x) q) := by
  induction pts generalizing b q with
  | nil => exact hb
  | cons p ps ih =>
    simp only [List.foldl_cons, List.map_cons]
    apply ih
    show some (growLon c.twoPi b.lon (c.norm p.2)) = _
    rw [hb]

section main
open List
variable (c : Consts K) (s L : K) (hs0 : 0 ≤ s) (hsT : s < c.twoPi) (hL : 2 * L < c.twoPi)
include hs0 hsT hL

/-- Wrapping windows included: let every inserted longitude lie in a window
    that starts at `s ∈ [0, 2π)`, runs eastwards for `L < π` and may wrap through 0 — i.e. the
    normalised longitude of each point is `pos 2π s o` for an offset `o ∈ [0, L]`.  Then, whatever
    the order of insertion, the longitude row of the box built by `_insert_pt_in_latlonbox` from
    the empty box is exactly `[pos (min offset), pos (max offset)]`: the arc from the westernmost to
    the easternmost inserted point inside the window. -/
theorem insert_minimal (off : K → K) (p : K × K) (ps : List (K × K))
    (hwin : ∀ q ∈ p :: ps, c.norm q.2 = pos c.twoPi s (off q.2) ∧ 0 ≤ off q.2 ∧ off q.2 ≤ L) :
    ((p :: ps).foldl (fun b q => insertPt c b (.at q.1 q.2)) Box.empty).lon
      = some (pos c.twoPi s (((p :: ps).map fun q => off q.2).foldl min L),
              pos c.twoPi s (((p :: ps).map fun q => off q.2).foldl max 0)) := by
  have hp := hwin p mem_cons_self
  have hps : ∀ q ∈ ps, c.norm q.2 = pos c.twoPi s (off q.2) ∧ 0 ≤ off q.2 ∧ off q.2 ≤ L :=
    fun q hq => hwin q (mem_cons_of_mem _ hq)
  simp only [foldl_cons, map_cons]
  have h0 : (insertPt c Box.empty (.at p.1 p.2)).lon
      = some (pos c.twoPi s (off p.2), pos c.twoPi s (off p.2)) := by
    show some (growLon c.twoPi none (c.norm p.2)) = _
    rw [hp.1]; rfl
  rw [foldl_insertPt_lon c ps _ _ h0]
  have hmap : (ps.map fun q => c.norm q.2) = (ps.map fun q => off q.2).map (pos c.twoPi s) := by
    rw [map_map]
    exact map_congr_left (fun q hq => (hps q hq).1)
  rw [hmap, foldl_growLon_window hs0 hsT hL _ hp.2.1 (le_refl _) hp.2.2
    (fun o ho => by
      obtain ⟨q, hq, rfl⟩ := mem_map.mp ho
      exact (hps q hq).2)]
  rw [min_eq_right hp.2.2, max_eq_right hp.2.1]

/-- any permutation of the inserted points gives the same longitude
    interval (traversal start and orientation of a face do not matter). -/
theorem insert_order_irrelevant (off : K → K) (l₁ l₂ : List (K × K)) (hperm : l₁ ~ l₂) (hne : l₁ ≠ [])
    (hwin : ∀ q ∈ l₁, c.norm q.2 = pos c.twoPi s (off q.2) ∧ 0 ≤ off q.2 ∧ off q.2 ≤ L) :
    (l₁.foldl (fun b q => insertPt c b (.at q.1 q.2)) Box.empty).lon
      = (l₂.foldl (fun b q => insertPt c b (.at q.1 q.2)) Box.empty).lon := by
  have hwin2 : ∀ q ∈ l₂, c.norm q.2 = pos c.twoPi s (off q.2) ∧ 0 ≤ off q.2 ∧ off q.2 ≤ L :=
    fun q hq => hwin q (hperm.mem_iff.mpr hq)
  have hne2 : l₂ ≠ [] := fun h => hne (by rw [h] at hperm; exact hperm.eq_nil)
  obtain ⟨p, ps, rfl⟩ := exists_cons_of_ne_nil hne
  obtain ⟨p', ps', rfl⟩ := exists_cons_of_ne_nil hne2
  rw [insert_minimal c s L hs0 hsT hL off p ps hwin, insert_minimal c s L hs0 hsT hL off p' ps' hwin2]
  have hm : ((p :: ps).map fun q => off q.2) ~ ((p' :: ps').map fun q => off q.2) := hperm.map _
  rw [hm.foldl_eq' (fun x _ y _ z => min_right_comm z x y) L,
      hm.foldl_eq' (fun x _ y _ z => max_right_comm z x y) 0]
/-- the interval of `insert_minimal` IS a shortest covering arc — every
    arc `[lo, hi]` (wrapping or not) that contains all inserted longitudes is at least as wide. -/
theorem insert_minimal_shortest (off : K → K) (p : K × K) (ps : List (K × K))
    (hwin : ∀ q ∈ p :: ps, c.norm q.2 = pos c.twoPi s (off q.2) ∧ 0 ≤ off q.2 ∧ off q.2 ≤ L)
    (lo hi : K) (hlo : 0 ≤ lo ∧ lo < c.twoPi) (hhi : 0 ≤ hi ∧ hi < c.twoPi)
    (hcov : ∀ q ∈ p :: ps, InLon lo hi (c.norm q.2)) :
    ∃ r, ((p :: ps).foldl (fun b q => insertPt c b (.at q.1 q.2)) Box.empty).lon = some r ∧
      lonWidth c.twoPi r.1 r.2 ≤ lonWidth c.twoPi lo hi := by
  refine ⟨_, insert_minimal c s L hs0 hsT hL off p ps hwin, ?_⟩
  have hp := hwin p mem_cons_self
  have hall : ∀ o ∈ (p :: ps).map fun q => off q.2,
      0 ≤ o ∧ o ≤ L ∧ InLon lo hi (pos c.twoPi s o) := by
    intro o ho
    obtain ⟨q, hq, rfl⟩ := mem_map.mp ho
    have h := hwin q hq
    exact ⟨h.2.1, h.2.2, by rw [← h.1]; exact hcov q hq⟩
  -- the minimum and the maximum are offsets of inserted points
  obtain ⟨hm_mem, hm_le⟩ := foldl_min_mem_le (ps.map fun q => off q.2) (off p.2)
  obtain ⟨hM_mem, hM_ge⟩ := foldl_max_mem_ge (ps.map fun q => off q.2) (off p.2)
  have hm := hall _ hm_mem
  have hM := hall _ hM_mem
  dsimp only
  rw [map_cons, foldl_cons, foldl_cons, min_eq_right hp.2.2, max_eq_right hp.2.1]
  exact cover_width_ge hs0 hsT hL hlo.2 hhi hm.1 (hm_le.trans hM_ge) hM.2.1
    hm.2.2 hM.2.2
end main

/-- non-vacuity: period 360, window starting at 350° of length 30° (wraps through 0); the points
    355°, 5°, 352° give `[352°, 5°]` -/
example : ([((0 : ℚ), (355 : ℚ)), (0, 5), (0, 352)].foldl
    (fun b q => insertPt ⟨90, 360, id⟩ b (.at q.1 q.2)) Box.empty).lon = some (352, 5) := by
  have h := insert_minimal (K := ℚ) ⟨90, 360, id⟩ 350 30 (by norm_num) (by norm_num) (by norm_num)
    (fun x => if 350 ≤ x then x - 350 else x + 10) (0, 355) [(0, 5), (0, 352)]
    (by
      intro q hq
      simp only [List.mem_cons, List.not_mem_nil, or_false] at hq
      rcases hq with rfl | rfl | rfl <;> norm_num [pos])
  rw [h]
  norm_num [pos]

end minimal

/-! ## §B the loops -/
theorem setHi_lat {K : Type} (b : Box K) (v lo hi : K) (h : b.lat = some (lo, hi)) :
    (b.setHi v).lat = some (lo, v) := by simp [Box.setHi, h]
theorem setLo_lat {K : Type} (b : Box K) (v lo hi : K) (h : b.lat = some (lo, hi)) :
    (b.setLo v).lat = some (v, hi) := by simp [Box.setLo, h]

theorem setHi_keeps {K : Type} [LinearOrder K] (b : Box K) (v la lo : K) (hv : la ≤ v) (h : b.HasLat la ∧ b.HasLon lo) :
    (b.setHi v).HasLat la ∧ (b.setHi v).HasLon lo := by
  obtain ⟨⟨l, u⟩, hb, hin⟩ := h.1
  exact ⟨⟨_, setHi_lat b v l u hb, hin.1, hv⟩, h.2⟩

theorem setLo_keeps {K : Type} [LinearOrder K] (b : Box K) (v la lo : K) (hv : v ≤ la) (h : b.HasLat la ∧ b.HasLon lo) :
    (b.setLo v).HasLat la ∧ (b.setLo v).HasLon lo := by
  obtain ⟨⟨l, u⟩, hb, hin⟩ := h.1
  exact ⟨⟨_, setLo_lat b v l u hb, hv, hin.2⟩, h.2⟩

section loopEquations
variable {K : Type} [Field K] [LinearOrder K]

/-- the three points the repaired loop inserts for one edge -/
def pts3 (e : ES K) : List (K × K) := [(e.lat1, e.lon1), (e.mx, e.lon1), (e.mn, e.lon1)]
def insAt (c : Consts K) (b : Box K) (p : K × K) : Box K := insertPt c b (.at p.1 p.2)

theorem normalLoop_eq_flat (c : Consts K) (es : List (ES K)) (b : Box K) :
    es.foldl (stepNormal c) b = (es.flatMap pts3).foldl (insAt c) b := by
  induction es generalizing b with
  | nil => rfl
  | cons e es ih =>
    simp only [List.foldl_cons, List.flatMap_cons, List.foldl_append]
    rw [ih]; rfl

/-- whatever holds of every inserted latitude holds of both latitude bounds: each bound IS one of
    the inserted latitudes -/
theorem insAt_lat_of (A : K → Prop) (c : Consts K) (b : Box K) (p : K × K) (hp : A p.1)
    (hb : ∀ lo hi, b.lat = some (lo, hi) → A lo ∧ A hi) (lo hi : K)
    (h : (insAt c b p).lat = some (lo, hi)) : A lo ∧ A hi := by
  have h' : growLat b.lat p.1 = (lo, hi) := Option.some.inj h
  rcases hbl : b.lat with _ | ⟨l, u⟩
  · rw [hbl] at h'; cases h'; exact ⟨hp, hp⟩
  · rw [hbl] at h'
    obtain ⟨hl, hu⟩ := hb l u hbl
    cases h'
    constructor
    · rw [minK_eq_min]; rcases min_choice l p.1 with e | e <;> rw [e] <;> assumption
    · rw [maxK_eq_max]; rcases max_choice u p.1 with e | e <;> rw [e] <;> assumption

theorem stepPole_lat (c : Consts K) (v : Variant) (north : Bool) (st : Box K × Bool) (e : ES K) :
    ∃ lo hi, (stepPole c v north st e).1.lat = some (lo, hi) ∧
      (if north then hi = c.halfPi else lo = -c.halfPi) := by
  unfold stepPole
  cases north
  · exact ⟨_, _, setLo_lat _ _ _ _ rfl, rfl⟩
  · exact ⟨_, _, setHi_lat _ _ _ _ rfl, rfl⟩

theorem foldl_stepPole_centre (c : Consts K) (v : Variant) (north : Bool) (es : List (ES K))
    (b : Box K) (hno : ∀ e ∈ es, e.n1Pole = false ∧ e.onEdge = false) :
    (es.foldl (stepPole c v north) (b, true)).2 = true :=
  foldl_keeps (stepPole c v north) (fun st => st.2 = true) es
    (fun st e he h => by
      obtain ⟨h1, h2⟩ := hno e he
      simp only [stepPole, h1, h2, Bool.or_self, Bool.false_eq_true, if_false, h])
    (b, true) rfl

theorem poleLoop_lat (c : Consts K) (v : Variant) (north : Bool) (es : List (ES K)) :
    (poleLoop c v north es).lat = (es.foldl (stepPole c v north) (Box.empty, true)).1.lat := by
  unfold poleLoop
  dsimp only
  split <;> rfl

theorem poleLoop_lon_centre (c : Consts K) (v : Variant) (north : Bool) (es : List (ES K))
    (h : (es.foldl (stepPole c v north) (Box.empty, true)).2 = true) :
    (poleLoop c v north es).lon = some (0, c.twoPi) := by
  unfold poleLoop
  dsimp only
  rw [if_pos h]

end loopEquations

section loops
variable {K : Type} [Field K] [LinearOrder K] [IsStrictOrderedRing K]

/-- Repaired normal-face loop, any list of edges: for every edge of the
    face, its first corner `(lat, lon)`, the arc maximum and the arc minimum are inside the final
    box.  Every corner of a face is the first corner of one of its edges, so every corner latitude
    lies in `[lat_min, lat_max]` and every corner longitude in the longitude interval. -/
theorem lat_encloses_nodes (c : Consts K) (close : K → K → Bool) (es : List (ES K)) (e : ES K)
    (he : e ∈ es) :
    (normalLoop c close .repaired es).Has e.lat1 (c.norm e.lon1) ∧
    (normalLoop c close .repaired es).HasLat e.mx ∧
    (normalLoop c close .repaired es).HasLat e.mn := by
  have hm : ∀ p ∈ pts3 e, ((es.flatMap pts3).foldl (insAt c) Box.empty).Has p.1 (c.norm p.2) :=
    fun p hp => foldl_establishes (insAt c) (fun b => b.Has p.1 (c.norm p.2)) p
      (fun b => insert_contains c b p.1 p.2)
      (fun b q h => (has_iff _ _ _).mpr (insert_at_keeps c b q.1 q.2 _ _ ((has_iff _ _ _).mp h))) _ _
      (List.mem_flatMap.mpr ⟨e, he, hp⟩)
  show (es.foldl (stepNormal c) Box.empty).Has _ _ ∧ (es.foldl (stepNormal c) Box.empty).HasLat _ ∧
    (es.foldl (stepNormal c) Box.empty).HasLat _
  rw [normalLoop_eq_flat]
  exact ⟨hm (e.lat1, e.lon1) List.mem_cons_self,
    (hm (e.mx, e.lon1) (List.mem_cons_of_mem _ List.mem_cons_self)).1,
    (hm (e.mn, e.lon1) (List.mem_cons_of_mem _ (List.mem_cons_of_mem _ List.mem_cons_self))).1⟩

/-- second corners too, for a closed ring of edges (each edge ends where another one starts) -/
theorem lat_encloses_second_nodes (c : Consts K) (close : K → K → Bool) (es : List (ES K))
    (hring : ∀ e ∈ es, ∃ e' ∈ es, e'.lat1 = e.lat2 ∧ e'.lon1 = e.lon2) (e : ES K) (he : e ∈ es) :
    (normalLoop c close .repaired es).Has e.lat2 (c.norm e.lon2) := by
  obtain ⟨e', he', h1, h2⟩ := hring e he
  rw [← h1, ← h2]
  exact (lat_encloses_nodes c close es e' he').1

/-- non-vacuity: a triangle whose lowest corner starts a poleward-bulging edge (degrees, ℚ) -/
example : (normalLoop (K := ℚ) ⟨90, 360, id⟩ (fun a b => a == b) .repaired
    [⟨10, 0, 12, 40, 20, 10, false, false⟩, ⟨12, 40, 30, 20, 30, 12, false, false⟩,
     ⟨30, 20, 10, 0, 30, 10, false, false⟩]).HasLat 10 :=
  (lat_encloses_nodes _ _ _ ⟨10, 0, 12, 40, 20, 10, false, false⟩ (by simp)).1.1

set_option linter.unusedSectionVars false in
/-- Tightness of the repaired normal-face loop, any list of edges: each
    latitude bound IS one of the inserted latitudes — a corner's latitude or an arc extreme, which
    `extreme_gca_latitude` takes from a point of the arc.  No slack is ever added. -/
theorem lat_bounds_attained (c : Consts K) (close : K → K → Bool) (es : List (ES K)) (lo hi : K)
    (h : (normalLoop c close .repaired es).lat = some (lo, hi)) :
    (∃ e ∈ es, lo = e.lat1 ∨ lo = e.mx ∨ lo = e.mn) ∧
    (∃ e ∈ es, hi = e.lat1 ∨ hi = e.mx ∨ hi = e.mn) := by
  have hA : ∀ p ∈ es.flatMap pts3, ∃ e ∈ es, p.1 = e.lat1 ∨ p.1 = e.mx ∨ p.1 = e.mn := by
    intro p hp
    obtain ⟨e, he, hpe⟩ := List.mem_flatMap.mp hp
    simp only [pts3, List.mem_cons, List.not_mem_nil, or_false] at hpe
    exact ⟨e, he, by rcases hpe with rfl | rfl | rfl <;> simp⟩
  refine foldl_keeps (insAt c) (fun b => ∀ lo hi, b.lat = some (lo, hi) →
      (∃ e ∈ es, lo = e.lat1 ∨ lo = e.mx ∨ lo = e.mn) ∧ ∃ e ∈ es, hi = e.lat1 ∨ hi = e.mx ∨ hi = e.mn)
    (es.flatMap pts3) (fun b p hp hb => insAt_lat_of _ c b p (hA p hp) hb) Box.empty
    (fun _ _ h => by cases h) lo hi ?_
  rw [← normalLoop_eq_flat]; exact h

end loops

/-! ### as-is counterexamples (decided over `Int`; latitudes / longitudes in degrees) -/

def cI : Consts Int := ⟨90, 360, id⟩
def eqI (a b : Int) : Bool := a == b

/-- a triangle `A(10°) → B(12°) → C(30°)`: the edge `A → B` bulges poleward to 20° -/
def asisEdges : List (ES Int) :=
  [⟨10, 0, 12, 40, 20, 10, false, false⟩, ⟨12, 40, 30, 20, 30, 12, false, false⟩,
   ⟨30, 20, 10, 0, 30, 10, false, false⟩]

/-- the `if / elif / else` chain inserts the arc maximum of `A → B` INSTEAD
    of the corner `A`, no other edge inserts `A`, and `lat_min` becomes 12° > 10°; the repaired loop
    gives `[10°, 30°]`. -/
theorem asis_skips_corner :
    (normalLoop cI eqI .asIs asisEdges).lat = some (12, 30) ∧
    ¬ (normalLoop cI eqI .asIs asisEdges).HasLat 10 ∧
    (normalLoop cI eqI .repaired asisEdges).lat = some (10, 30) := by
  have h1 : (normalLoop cI eqI .asIs asisEdges).lat = some (12, 30) := by decide
  refine ⟨h1, ?_, by decide⟩
  rintro ⟨p, hp, hin⟩
  rw [h1] at hp
  cases hp
  exact absurd hin.1 (by decide)

/-- a triangle with a corner on the north pole whose nominal longitude is 0°; the other corners
    sit at 100°E and 140°E -/
def poleCornerEdges : List (ES Int) :=
  [⟨90, 0, 60, 100, 90, 60, true, true⟩, ⟨60, 100, 60, 140, 65, 60, false, false⟩,
   ⟨60, 140, 90, 0, 90, 60, false, true⟩]

/-- the as-is pole loop stretches the longitude interval to the
    pole corner's nominal longitude (`[0°, 140°]`); the repaired loop reports `[100°, 140°]`. -/
theorem asis_pole_corner_longitude :
    (poleLoop cI .asIs true poleCornerEdges).lon = some (0, 140) ∧
    (poleLoop cI .repaired true poleCornerEdges).lon = some (100, 140) ∧
    (poleLoop cI .repaired true poleCornerEdges).lat = some (60, 90) := by decide

/-- exact direction vectors: "same point" = same direction -/
def sameDir (p q : V3 Int) : Bool :=
  let c := cross p q
  c.x == 0 && c.y == 0 && c.z == 0 && decide (0 < dot p q)

/-- the runtime over `Int` for the as-is counterexamples.  With `tol = eps = 0` every `sqrt` in
    `onGca` and `arcMeet` is multiplied away, so `sqrt := id`, `normalize := id` are sound there;
    the as-is path never calls `atan2` or `pi`.  (`Fn.eps` is used by `between` and `arcMeet` only;
    `onGca` tests with `tol` and exact `≥ 0`.) -/
def fnI : Fn Int :=
  { sqrt := id, asin := id, abs := fun x => if x < 0 then -x else x, close := eqI,
    tol := 0, eps := 0, normalize := id, samePt := sameDir, nearPt := sameDir,
    atan2 := fun _ _ => 0, pi := 1 }

def faceI (l : List (V3 Int)) : List (Edge Int) :=
  (Oracle.cyc l).map fun e => ⟨e.1, e.2, 0, 0, 0, 0⟩

/-- the pole is strictly inside a counter-clockwise convex face: left of every edge -/
def poleLeftOfAll (north : Bool) (l : List (V3 Int)) : Bool :=
  (Oracle.cyc l).all fun e => decide (0 < dot (cross e.1 e.2) (poleVec north))

/-- a polar cap with a corner on the reference meridian (longitude 0) -/
def capOnMeridian : List (V3 Int) := [⟨2, 0, 1⟩, ⟨-1, 2, 1⟩, ⟨-1, -2, 1⟩]
/-- the same cap turned a little -/
def capOffMeridian : List (V3 Int) := [⟨2, 1, 1⟩, ⟨-1, 2, 1⟩, ⟨-1, -2, 1⟩]

/-- the north pole is strictly inside the cap, but the only crossing of the
    reference arc is at a corner, which `_check_intersection` counts as 0 — the pole is not
    detected; turning the cap off the meridian it is. -/
theorem asis_pole_missed :
    poleLeftOfAll true capOnMeridian = true ∧ poleInside fnI true (faceI capOnMeridian) = false ∧
    poleLeftOfAll true capOffMeridian = true ∧ poleInside fnI true (faceI capOffMeridian) = true := by
  decide +kernel

/-- a small triangle on the equator around the reference point `(1, 0, 0)` -/
def equatorialFace : List (V3 Int) := [⟨100, 9, -2⟩, ⟨100, -9, 6⟩, ⟨100, 5, -5⟩]

/-- no pole is inside the equatorial triangle, yet the "Equator" branch
    (north edges against the northern half of the reference meridian, south edges against the
    southern half) counts an odd number of crossings for both poles. -/
theorem asis_false_pole :
    poleLeftOfAll true equatorialFace = false ∧ poleLeftOfAll false equatorialFace = false ∧
    location (faceI equatorialFace) = .equator ∧
    poleInside fnI true (faceI equatorialFace) = true ∧
    poleInside fnI false (faceI equatorialFace) = true := by
  decide +kernel

section poleface
variable {K : Type} [Field K] [LinearOrder K] [IsStrictOrderedRing K]

set_option linter.unusedSectionVars false in
/-- A face flagged as enclosing a pole (`hasN ∨ hasS`, whatever computed the flags) reports that
    pole's latitude as the bound on that side, and — when no edge touches the pole (no corner on
    it, no edge through it) — the full longitude circle `[0, 2π]`.  The flag stands in for "the
    pole lies strictly inside the face": the as-is flag (parity count) does not agree with that
    (`asis_pole_missed`, `asis_false_pole`); the repaired flag is the winding of the boundary about
    the polar axis (§D). -/
theorem pole_face_partial (c : Consts K) (close : K → K → Bool) (v : Variant) (hasN hasS : Bool)
    (es : List (ES K)) (hne : es ≠ []) (hflag : hasN = true ∨ hasS = true) :
    (∃ lo hi, (runFace c close v hasN hasS es).lat = some (lo, hi) ∧
       (if hasN then hi = c.halfPi else lo = -c.halfPi)) ∧
    ((∀ e ∈ es, e.n1Pole = false ∧ e.onEdge = false) →
       (runFace c close v hasN hasS es).lon = some (0, c.twoPi)) := by
  have hb : (hasN || hasS) = true := by rcases hflag with h | h <;> simp [h]
  unfold runFace
  rw [if_pos hb]
  constructor
  · rw [poleLoop_lat]
    obtain ⟨init, last, rfl⟩ := (List.eq_nil_or_concat es).resolve_left hne
    rw [List.concat_eq_append, List.foldl_append]
    simp only [List.foldl_cons, List.foldl_nil]
    exact stepPole_lat c v hasN (init.foldl (stepPole c v hasN) (Box.empty, true)) last
  · intro hno
    exact poleLoop_lon_centre c v hasN es (foldl_stepPole_centre c v hasN es Box.empty hno)

/-- non-vacuity: a square cap around the north pole (degrees) -/
example : (runFace (K := ℚ) ⟨90, 360, id⟩ (fun a b => a == b) .repaired true false
    [⟨60, 0, 60, 90, 69, 60, false, false⟩, ⟨60, 90, 60, 180, 69, 60, false, false⟩,
     ⟨60, 180, 60, 270, 69, 60, false, false⟩, ⟨60, 270, 60, 0, 69, 60, false, false⟩]).lon
    = some (0, 360) :=
  (pole_face_partial _ _ _ _ _ _ (by simp) (Or.inl rfl)).2 (by simp)

/-- the longitude the pole loop uses for an edge's first corner: `stepPole`'s local `lon1` -/
def lonUsed (v : Variant) (e : ES K) : K :=
  match v with
  | .asIs => e.lon1
  | .repaired => if e.n1Pole then e.lon2 else e.lon1

omit [IsStrictOrderedRing K] in
theorem stepPole_grows (c : Consts K) (v : Variant) (north : Bool) (st : Box K × Bool) (e : ES K)
    (la lo : K) (hy : -c.halfPi ≤ la ∧ la ≤ c.halfPi) (h : st.1.HasLat la ∧ st.1.HasLon lo) :
    (stepPole c v north st e).1.HasLat la ∧ (stepPole c v north st e).1.HasLon lo := by
  have h0 : (if (e.n1Pole || e.onEdge) = true then insertPt c st.1 (.pole north) else st.1).HasLat la ∧
      (if (e.n1Pole || e.onEdge) = true then insertPt c st.1 (.pole north) else st.1).HasLon lo := by
    split
    · exact ⟨insert_grows_lat c _ _ la hy h.1, insert_grows_lon c _ _ lo h.2⟩
    · exact h
  unfold stepPole
  cases north
  · exact setLo_keeps _ _ la lo hy.1 (insert_at_keeps c _ _ _ la lo (insert_at_keeps c _ _ _ la lo h0))
  · exact setHi_keeps _ _ la lo hy.2 (insert_at_keeps c _ _ _ la lo (insert_at_keeps c _ _ _ la lo h0))

theorem stepPole_covers (c : Consts K) (v : Variant) (north : Bool) (st : Box K × Bool) (e : ES K)
    (hy : -c.halfPi ≤ e.lat1 ∧ e.lat1 ≤ c.halfPi) :
    (stepPole c v north st e).1.HasLat e.lat1 ∧
    (stepPole c v north st e).1.HasLon (c.norm (lonUsed v e)) := by
  have h0 := fun b : Box K => (has_iff _ _ _).mp (insert_contains c b e.lat1 (lonUsed v e))
  unfold stepPole
  cases north
  · exact setLo_keeps _ _ _ _ hy.1 (insert_at_keeps c _ _ _ _ _ (h0 _))
  · exact setHi_keeps _ _ _ _ hy.2 (insert_at_keeps c _ _ _ _ _ (h0 _))

/-- Both variants, any list of edges: every corner latitude is in
    `[lat_min, lat_max]`, and the longitude used for the corner is in the longitude interval
    (`[0, 2π]` contains every normalised longitude). -/
theorem pole_loop_encloses_nodes (c : Consts K) (v : Variant) (north : Bool) (es : List (ES K))
    (hnorm : ∀ x, 0 ≤ c.norm x ∧ c.norm x ≤ c.twoPi) (h2pi : 0 ≤ c.twoPi)
    (e : ES K) (he : e ∈ es) (hy : -c.halfPi ≤ e.lat1 ∧ e.lat1 ≤ c.halfPi) :
    (poleLoop c v north es).HasLat e.lat1 ∧ (poleLoop c v north es).HasLon (c.norm (lonUsed v e)) := by
  have hk := foldl_establishes (stepPole c v north)
    (fun st => st.1.HasLat e.lat1 ∧ st.1.HasLon (c.norm (lonUsed v e))) e
    (fun st => stepPole_covers c v north st e hy)
    (fun st x h => stepPole_grows c v north st x _ _ hy h) es (Box.empty, true) he
  unfold poleLoop
  dsimp only
  split
  · -- no edge touched the pole: the longitude row is replaced by the full circle
    refine ⟨hk.1, (0, c.twoPi), rfl, ?_⟩
    unfold InLon
    rw [if_pos h2pi]
    exact hnorm _
  · exact hk

end poleface

/-! ## §C the arc

  The same spherical geometry as `Props/C14.lean`, on this model's own copy of `V3`, `dot`, `cross`
  (the two models are separate by design).  Pairs: `cross_normSq` ~ C14 `lagrange`,
  `circle_bound_hom` ~ `apex_bound`, `rise_add` ~ `rise_add_rise`, `flipz` ~ `flipZ`,
  `apex_attains_bound` / `sinLat_le_apex` ~ `code_param` / `code_dmax_iff`, `arc_le_endpoints` ~
  `endpoint_max` (here chord parameter `t` and `Real.sqrt`; there cone coordinates and no root). -/
section vec
variable {K : Type} [Field K]

theorem dot_comm (a b : V3 K) : dot a b = dot b a := by
  simp only [dot]; ring

/-- Lagrange's identity `‖a × b‖² = ‖a‖² ‖b‖² − (a·b)²` -/
theorem cross_normSq (a b : V3 K) :
    dot (cross a b) (cross a b) = dot a a * dot b b - dot a b ^ 2 := by
  simp only [dot, cross]; ring

/-- homogeneous form (no normalisation): for ANY normal `n` and ANY `p ⟂ n`,
    `p_z² ‖n‖² ≤ ‖p‖² (‖n‖² − n_z²)`; the defect is the square of `(n × p)_z`. -/
theorem circle_bound_defect (n p : V3 K) (ho : dot n p = 0) :
    dot p p * (dot n n - n.z ^ 2) - p.z ^ 2 * dot n n = (cross n p).z ^ 2 := by
  simp only [dot, cross] at ho ⊢
  linear_combination (n.x * p.x + n.y * p.y - n.z * p.z) * ho

theorem chord_in_plane (a b : V3 K) (t : K) : dot (cross a b) (chord a b t) = 0 := by
  simp only [dot, cross, chord, vadd, smul]
  ring

theorem dot_chord (p a b : V3 K) (t : K) :
    dot p (chord a b t) = (1 - t) * dot p a + t * dot p b := by
  simp only [dot, chord, vadd, smul]
  ring

theorem dot_a_chord (a b : V3 K) (ha : dot a a = 1) (t : K) :
    dot a (chord a b t) = (1 - t) + t * dot a b := by
  rw [dot_chord, ha, mul_one]

theorem chord_normSq (a b : V3 K) (ha : dot a a = 1) (hb : dot b b = 1) (t : K) :
    dot (chord a b t) (chord a b t) = 1 - 2 * t * (1 - t) * (1 - dot a b) := by
  rw [dot_chord, dot_comm _ a, dot_comm _ b, dot_a_chord a b ha, dot_chord, hb, dot_comm b a]
  ring

theorem chord_z (a b : V3 K) (t : K) : (chord a b t).z = (1 - t) * a.z + t * b.z := rfl

/-- `((a × b) × p(t))_z` is affine in `t`; it vanishes at `d_a_max`, which is what makes the chord
    point there the apex (`apex_attains_bound`) -/
theorem crossz_chord (a b : V3 K) (ha : dot a a = 1) (hb : dot b b = 1) (t : K) :
    (cross (cross a b) (chord a b t)).z
      = (b.z - dot a b * a.z) - t * ((1 - dot a b) * (a.z + b.z)) := by
  simp only [dot, cross, chord, vadd, smul] at ha hb ⊢
  linear_combination (b.z * (1 - t)) * ha - (a.z * t) * hb

theorem dAMax_eq (a b : V3 K) :
    dAMax a b = (b.z - dot a b * a.z) / ((1 - dot a b) * (a.z + b.z)) := by
  show (a.z * dot a b - b.z) / ((a.z + b.z) * (dot a b - 1)) = _
  rw [show (a.z * dot a b - b.z) = -(b.z - dot a b * a.z) by ring,
      show ((a.z + b.z) * (dot a b - 1)) = -((1 - dot a b) * (a.z + b.z)) by ring, neg_div_neg_eq]

theorem dot_chord_vsub (a b : V3 K) (ha : dot a a = 1) (hb : dot b b = 1) (t : K) :
    dot (chord a b t) (vsub b a) = (1 - dot a b) * (2 * t - 1) := by
  simp only [dot, chord, vadd, vsub, smul] at ha hb ⊢
  linear_combination t * hb - (1 - t) * ha

theorem chord_swap (a b : V3 K) (t : K) : chord b a (1 - t) = chord a b t := by
  simp only [chord, vadd, smul, V3.mk.injEq]
  refine ⟨?_, ?_, ?_⟩ <;> ring

/-- reflection in the equatorial plane -/
def flipz (a : V3 K) : V3 K := ⟨a.x, a.y, -a.z⟩

theorem flipz_dot (a b : V3 K) : dot (flipz a) (flipz b) = dot a b := by
  simp only [dot, flipz]; ring
theorem flipz_chord (a b : V3 K) (t : K) : chord (flipz a) (flipz b) t = flipz (chord a b t) := by
  simp only [chord, vadd, smul, flipz, V3.mk.injEq]
  refine ⟨trivial, trivial, ?_⟩
  ring
theorem flipz_dAMax (a b : V3 K) : dAMax (flipz a) (flipz b) = dAMax a b := by
  rw [dAMax_eq, dAMax_eq, flipz_dot]
  simp only [flipz]
  rw [show (-b.z - dot a b * -a.z) = -(b.z - dot a b * a.z) by ring,
      show ((1 - dot a b) * (-a.z + -b.z)) = -((1 - dot a b) * (a.z + b.z)) by ring, neg_div_neg_eq]

end vec

section arc
variable {K : Type} [Field K] [LinearOrder K] [IsStrictOrderedRing K]

theorem normSq_nonneg (p : V3 K) : 0 ≤ dot p p :=
  add_nonneg (add_nonneg (mul_self_nonneg _) (mul_self_nonneg _)) (mul_self_nonneg _)

theorem cauchy_schwarz (a p : V3 K) : (dot a p) ^ 2 ≤ dot a a * dot p p :=
  sub_nonneg.mp (cross_normSq a p ▸ normSq_nonneg (cross a p))

theorem circle_bound_hom (n p : V3 K) (ho : dot n p = 0) :
    p.z ^ 2 * dot n n ≤ dot p p * (dot n n - n.z ^ 2) :=
  sub_nonneg.mp (circle_bound_defect n p ho ▸ sq_nonneg _)

/-- The normalised form of `circle_bound_hom`: on the great circle with unit normal `n`, every unit
    vector `p ⟂ n` has `p_z² ≤ 1 − n_z²` — a global bound for the apex value. -/
theorem circle_apex_bound (n p : V3 K) (hn : dot n n = 1) (hp : dot p p = 1) (ho : dot p n = 0) :
    p.z ^ 2 ≤ 1 - n.z ^ 2 := by
  have h := circle_bound_hom n p (dot_comm n p ▸ ho)
  rwa [hn, hp, mul_one, one_mul] at h

example : ((0 : ℚ)) ^ 2 ≤ 1 - (1 : ℚ) ^ 2 :=
  circle_apex_bound (⟨0, 0, 1⟩ : V3 ℚ) ⟨1, 0, 0⟩ (by simp only [dot]; norm_num) (by simp only [dot]; norm_num)
    (by simp only [dot]; norm_num)

/-- for unit end points,
    `z'(t)·‖p(t)‖² − z(t)·(p(t)·p'(t))` — the numerator of the derivative of `z(t)/‖p(t)‖` — is the
    affine function `(z_b − z_a) + (1 − a·b)(z_a − t (z_a + z_b))`; it vanishes at the code's
    `d_a_max`, and nowhere else. -/
theorem extreme_param_stationary (a b : V3 K) (ha : dot a a = 1) (hb : dot b b = 1)
    (hden : (1 - dot a b) * (a.z + b.z) ≠ 0) :
    (∀ t, (b.z - a.z) * dot (chord a b t) (chord a b t)
            - (chord a b t).z * dot (chord a b t) (vsub b a)
          = (b.z - a.z) + (1 - dot a b) * (a.z - t * (a.z + b.z))) ∧
    (b.z - a.z) + (1 - dot a b) * (a.z - dAMax a b * (a.z + b.z)) = 0 ∧
    (∀ t, (b.z - a.z) + (1 - dot a b) * (a.z - t * (a.z + b.z)) = 0 → t = dAMax a b) := by
  refine ⟨?_, ?_, ?_⟩
  · intro t
    rw [chord_normSq a b ha hb, dot_chord_vsub a b ha hb, chord_z]
    ring
  · rw [dAMax_eq]
    have h := div_mul_cancel₀ (b.z - dot a b * a.z) hden
    linear_combination (-1 : K) * h
  · intro t ht
    rw [dAMax_eq, eq_div_iff hden]
    linear_combination -ht

example : dAMax (⟨3/5, 0, 4/5⟩ : V3 ℚ) ⟨0, 3/5, 4/5⟩ = 1/2 := by
  decide +kernel

/-- the chord point at `d_a_max` attains the great circle's bound
    `z² ‖n‖² = ‖p‖² (‖n‖² − n_z²)` (`n = a × b`): it IS the circle's northernmost or southernmost
    direction. -/
theorem apex_attains_bound (a b : V3 K) (ha : dot a a = 1) (hb : dot b b = 1)
    (hden : (1 - dot a b) * (a.z + b.z) ≠ 0) :
    (chord a b (dAMax a b)).z ^ 2 * dot (cross a b) (cross a b)
      = dot (chord a b (dAMax a b)) (chord a b (dAMax a b))
          * (dot (cross a b) (cross a b) - (cross a b).z ^ 2) := by
  have hz : (cross (cross a b) (chord a b (dAMax a b))).z = 0 := by
    rw [crossz_chord a b ha hb, dAMax_eq, div_mul_cancel₀ _ hden]; ring
  have := circle_bound_defect (cross a b) (chord a b (dAMax a b)) (chord_in_plane a b _)
  rw [hz] at this
  linear_combination -this

/-- the chord point at `d_a_max` dominates EVERY point of the great circle
    (in particular every point of the arc): `(z(t)/‖p(t)‖)² ≤ (z(t*)/‖p(t*)‖)²`, cross-multiplied. -/
theorem arc_below_apex (a b : V3 K) (ha : dot a a = 1) (hb : dot b b = 1)
    (hden : (1 - dot a b) * (a.z + b.z) ≠ 0) (hn : 0 < dot (cross a b) (cross a b)) (t : K) :
    (chord a b t).z ^ 2 * dot (chord a b (dAMax a b)) (chord a b (dAMax a b))
      ≤ (chord a b (dAMax a b)).z ^ 2 * dot (chord a b t) (chord a b t) := by
  have h1 := circle_bound_hom (cross a b) (chord a b t) (chord_in_plane a b t)
  have h2 := apex_attains_bound a b ha hb hden
  refine le_of_mul_le_mul_right ?_ hn
  have := mul_le_mul_of_nonneg_right h1 (normSq_nonneg (chord a b (dAMax a b)))
  linear_combination this - dot (chord a b t) (chord a b t) * h2

end arc

/-! ### every point of the arc, over ℝ: `sinLat` and `Real.sqrt` -/

/-- `z_b − (a·b) z_a`: sign of the rate of change of latitude when leaving `a` towards `b` -/
def rise (a b : V3 ℝ) : ℝ := b.z - dot a b * a.z

/-- sine of the latitude of the arc point with chord parameter `t` -/
noncomputable def sinLat (a b : V3 ℝ) (t : ℝ) : ℝ :=
  (chord a b t).z / Real.sqrt (dot (chord a b t) (chord a b t))

theorem dot_le_norm (a p : V3 ℝ) (ha : dot a a = 1) : dot a p ≤ Real.sqrt (dot p p) := by
  have h := cauchy_schwarz a p
  rw [ha, one_mul] at h
  exact le_trans (le_abs_self _) (Real.abs_le_sqrt h)

theorem chord_normSq_le_one (a b : V3 ℝ) (ha : dot a a = 1) (hb : dot b b = 1)
    (hd : dot a b ≤ 1) (t : ℝ) (ht0 : 0 ≤ t) (ht1 : t ≤ 1) :
    dot (chord a b t) (chord a b t) ≤ 1 := by
  rw [chord_normSq a b ha hb]
  have : 0 ≤ t * (1 - t) * (1 - dot a b) :=
    mul_nonneg (mul_nonneg ht0 (sub_nonneg.mpr ht1)) (sub_nonneg.mpr hd)
  linarith

/-- the chord of an arc shorter than half a turn misses the centre: its squared norm is at least
    `(1 + a·b)/2` -/
theorem chord_normSq_pos (a b : V3 ℝ) (ha : dot a a = 1) (hb : dot b b = 1)
    (hd1 : dot a b ≤ 1) (hd2 : -1 < dot a b) (t : ℝ) :
    0 < dot (chord a b t) (chord a b t) := by
  rw [chord_normSq a b ha hb, show 1 - 2 * t * (1 - t) * (1 - dot a b)
    = (1 + dot a b) / 2 + 2 * (t - 1 / 2) ^ 2 * (1 - dot a b) by ring]
  exact add_pos_of_pos_of_nonneg (half_pos (neg_lt_iff_pos_add'.mp hd2))
    (mul_nonneg (mul_nonneg two_pos.le (sq_nonneg _)) (sub_nonneg.mpr hd1))

/-- leaving `a` the latitude does not rise and `a` is not in the south: `a` dominates the arc -/
theorem start_dominates_of_fall (a b : V3 ℝ) (ha : dot a a = 1) (t : ℝ) (ht0 : 0 ≤ t)
    (hr : rise a b ≤ 0) (hza : 0 ≤ a.z) :
    (chord a b t).z ≤ a.z * Real.sqrt (dot (chord a b t) (chord a b t)) := by
  have e : (chord a b t).z = a.z * dot a (chord a b t) + t * rise a b := by
    rw [chord_z, dot_a_chord a b ha, rise]; ring
  have h1 := mul_le_mul_of_nonneg_left (dot_le_norm a (chord a b t) ha) hza
  have h2 := mul_nonpos_of_nonneg_of_nonpos ht0 hr
  linarith

/-- on an arc shorter than half a turn from the south to the north, if the latitude does not rise when
    leaving the southern end it does not rise when leaving the northern end either -/
theorem no_double_fall (za zb d : ℝ) (hd : d ^ 2 < 1) (h1 : zb - d * za ≤ 0)
    (hza : za < 0) (hzb : 0 < zb) : za - d * zb ≤ 0 := by
  have hd0 : d < 0 := by
    by_contra hc
    have : d * za ≤ 0 := mul_nonpos_of_nonneg_of_nonpos (not_lt.mp hc) hza.le
    linarith
  have h3 : 0 ≤ d * (zb - d * za) := mul_nonneg_of_nonpos_of_nonpos hd0.le h1
  have h4 : za * (1 - d ^ 2) < 0 := mul_neg_of_neg_of_pos hza (sub_pos.mpr hd)
  linarith

/-- if the latitude does not rise on leaving `a`, the more northern end point bounds the arc -/
theorem endpoint_dominates_of_fall (a b : V3 ℝ) (ha : dot a a = 1) (hb : dot b b = 1) (hd : dot a b ^ 2 < 1)
    (t : ℝ) (ht0 : 0 ≤ t) (ht1 : t ≤ 1) (hm : 0 < max a.z b.z) (hr : rise a b ≤ 0) :
    (chord a b t).z ≤ max a.z b.z * Real.sqrt (dot (chord a b t) (chord a b t)) := by
  have hs0 := Real.sqrt_nonneg (dot (chord a b t) (chord a b t))
  rcases le_or_gt 0 a.z with hza | hza
  · exact (start_dominates_of_fall a b ha t ht0 hr hza).trans (mul_le_mul_of_nonneg_right (le_max_left _ _) hs0)
  · -- `a` is in the south, so `b` is in the north and dominates the arc read from `b`
    have hzb : 0 < b.z := (lt_max_iff.mp hm).resolve_left hza.not_gt
    have hr' : rise b a ≤ 0 := by
      unfold rise at hr ⊢
      rw [dot_comm b a]
      exact no_double_fall a.z b.z (dot a b) hd hr hza hzb
    have h := start_dominates_of_fall b a hb (1 - t) (sub_nonneg.mpr ht1) hr' hzb.le
    rw [chord_swap] at h
    exact h.trans (mul_le_mul_of_nonneg_right (le_max_right _ _) hs0)

/-- when the great circle's northernmost point is NOT strictly inside the arc
    (`¬ (rise a b > 0 ∧ rise b a > 0)`), every point of the arc is at most as far north as the
    more northern end point: `z(t) ≤ max(z_a, z_b)·‖p(t)‖` for all `t ∈ [0, 1]`. -/
theorem arc_le_endpoints (a b : V3 ℝ) (ha : dot a a = 1) (hb : dot b b = 1)
    (hd1 : dot a b < 1) (hd2 : -1 < dot a b) (t : ℝ) (ht0 : 0 ≤ t) (ht1 : t ≤ 1)
    (hno : ¬ (0 < rise a b ∧ 0 < rise b a)) :
    (chord a b t).z ≤ max a.z b.z * Real.sqrt (dot (chord a b t) (chord a b t)) := by
  have hdsq : dot a b ^ 2 < 1 := (sq_lt_one_iff_abs_lt_one _).mpr (abs_lt.mpr ⟨hd2, hd1⟩)
  rcases le_or_gt (max a.z b.z) 0 with hm | hm
  · -- both ends in the south: `z(t) ≤ max ≤ max · ‖p(t)‖` because `‖p(t)‖ ≤ 1`
    have hs1 : Real.sqrt (dot (chord a b t) (chord a b t)) ≤ 1 :=
      Real.sqrt_le_one.mpr (chord_normSq_le_one a b ha hb hd1.le t ht0 ht1)
    have hz : (chord a b t).z ≤ max a.z b.z := by
      rw [chord_z]
      have h1 := mul_le_mul_of_nonneg_left (le_max_left a.z b.z) (sub_nonneg.mpr ht1)
      have h2 := mul_le_mul_of_nonneg_left (le_max_right a.z b.z) ht0
      linarith
    have := mul_le_mul_of_nonpos_left hs1 hm
    linarith
  · rcases not_and_or.mp hno with h | h
    · exact endpoint_dominates_of_fall a b ha hb hdsq t ht0 ht1 hm (not_lt.mp h)
    · have h' := endpoint_dominates_of_fall b a hb ha (dot_comm a b ▸ hdsq) (1 - t) (sub_nonneg.mpr ht1)
        (sub_le_self 1 ht0) (max_comm a.z b.z ▸ hm) (not_lt.mp h)
      rwa [chord_swap, max_comm] at h'

theorem flipz_rise (a b : V3 ℝ) : rise (flipz a) (flipz b) = -rise a b := by
  simp only [rise, flipz_dot]; simp only [flipz]; ring
theorem flipz_sinLat (a b : V3 ℝ) (t : ℝ) : sinLat (flipz a) (flipz b) t = -sinLat a b t := by
  unfold sinLat
  rw [flipz_chord, flipz_dot]
  simp only [flipz]; ring

/-- when the southernmost point of the great circle is not strictly inside
    the arc, every arc point is at least as far north as the more southern end point. -/
theorem arc_ge_endpoints (a b : V3 ℝ) (ha : dot a a = 1) (hb : dot b b = 1)
    (hd1 : dot a b < 1) (hd2 : -1 < dot a b) (t : ℝ) (ht0 : 0 ≤ t) (ht1 : t ≤ 1)
    (hno : ¬ (rise a b < 0 ∧ rise b a < 0)) :
    min a.z b.z * Real.sqrt (dot (chord a b t) (chord a b t)) ≤ (chord a b t).z := by
  have h := arc_le_endpoints (flipz a) (flipz b) ((flipz_dot a a).trans ha) ((flipz_dot b b).trans hb)
    ((flipz_dot a b).trans_lt hd1) (hd2.trans_eq (flipz_dot a b).symm) t ht0 ht1
    (by rw [flipz_rise, flipz_rise]; exact fun hc => hno ⟨neg_pos.mp hc.1, neg_pos.mp hc.2⟩)
  rw [flipz_chord, flipz_dot] at h
  simp only [flipz] at h
  rw [max_neg_neg] at h
  linarith

theorem rise_add (a b : V3 ℝ) : rise a b + rise b a = (1 - dot a b) * (a.z + b.z) := by
  simp only [rise, dot_comm b a]; ring

theorem div_sqrt_le_div_sqrt (x y N M : ℝ) (hN : 0 < N) (hM : 0 < M) (hy : 0 ≤ y)
    (h : x ^ 2 * M ≤ y ^ 2 * N) : x / Real.sqrt N ≤ y / Real.sqrt M := by
  rw [div_le_div_iff₀ (Real.sqrt_pos.mpr hN) (Real.sqrt_pos.mpr hM)]
  refine (abs_le_of_sq_le_sq' ?_ (mul_nonneg hy (Real.sqrt_nonneg N))).2
  rwa [mul_pow, mul_pow, Real.sq_sqrt hM.le, Real.sq_sqrt hN.le]

/-- when the latitude rises on leaving either end, `d_a_max` lies strictly inside `(0, 1)` and the arc
    point there is at least as far north as EVERY point of the great circle -/
theorem sinLat_le_apex (a b : V3 ℝ) (ha : dot a a = 1) (hb : dot b b = 1)
    (hd1 : dot a b < 1) (hd2 : -1 < dot a b) (hap : 0 < rise a b ∧ 0 < rise b a) (τ : ℝ) :
    (0 < dAMax a b ∧ dAMax a b < 1) ∧ sinLat a b τ ≤ sinLat a b (dAMax a b) := by
  have hdsq : dot a b ^ 2 < 1 := (sq_lt_one_iff_abs_lt_one _).mpr (abs_lt.mpr ⟨hd2, hd1⟩)
  have hD : 0 < (1 - dot a b) * (a.z + b.z) := rise_add a b ▸ add_pos hap.1 hap.2
  have ht : 0 < dAMax a b ∧ dAMax a b < 1 := by
    rw [dAMax_eq]
    exact ⟨div_pos hap.1 hD, (div_lt_one hD).mpr (rise_add a b ▸ lt_add_of_pos_right _ hap.2)⟩
  -- the apex is in the north: `z(t*) · D = z_a² + z_b² − 2 (a·b) z_a z_b`, a positive definite form
  have hzs : 0 ≤ (chord a b (dAMax a b)).z := by
    refine nonneg_of_mul_nonneg_left ?_ hD
    have e : (chord a b (dAMax a b)).z * ((1 - dot a b) * (a.z + b.z))
        = (a.z - dot a b * b.z) ^ 2 + (1 - dot a b ^ 2) * b.z ^ 2 := by
      rw [chord_z, dAMax_eq]
      have hc := div_mul_cancel₀ (b.z - dot a b * a.z) hD.ne'
      linear_combination (b.z - a.z) * hc
    rw [e]
    exact add_nonneg (sq_nonneg _) (mul_nonneg (sub_pos.mpr hdsq).le (sq_nonneg _))
  have hn : 0 < dot (cross a b) (cross a b) := by
    rw [cross_normSq, ha, hb, one_mul]; exact sub_pos.mpr hdsq
  exact ⟨ht, div_sqrt_le_div_sqrt _ _ _ _ (chord_normSq_pos a b ha hb hd1.le hd2 τ)
    (chord_normSq_pos a b ha hb hd1.le hd2 _) hzs (arc_below_apex a b ha hb hD.ne' hn τ)⟩

/-- the exact `extreme_gca_latitude(…, "max")`, in sine-of-latitude
    form, dominates EVERY point of the arc: if `d_a_max ∈ (0, 1)` the candidate point joins the
    end points, otherwise the end points alone suffice. -/
theorem extreme_sin_encloses_max (a b : V3 ℝ) (ha : dot a a = 1) (hb : dot b b = 1)
    (hd1 : dot a b < 1) (hd2 : -1 < dot a b) (τ : ℝ) (h0 : 0 ≤ τ) (h1 : τ ≤ 1) :
    sinLat a b τ ≤
      (if 0 < dAMax a b ∧ dAMax a b < 1 then max (sinLat a b (dAMax a b)) (max a.z b.z)
       else max a.z b.z) := by
  by_cases hap : 0 < rise a b ∧ 0 < rise b a
  · obtain ⟨ht, h⟩ := sinLat_le_apex a b ha hb hd1 hd2 hap τ
    rw [if_pos ht]
    exact h.trans (le_max_left _ _)
  · have hU : sinLat a b τ ≤ max a.z b.z :=
      (div_le_iff₀ (Real.sqrt_pos.mpr (chord_normSq_pos a b ha hb hd1.le hd2 τ))).mpr
        (arc_le_endpoints a b ha hb hd1 hd2 τ h0 h1 hap)
    split
    · exact hU.trans (le_max_right _ _)
    · exact hU

theorem extreme_sin_encloses_min (a b : V3 ℝ) (ha : dot a a = 1) (hb : dot b b = 1)
    (hd1 : dot a b < 1) (hd2 : -1 < dot a b) (τ : ℝ) (h0 : 0 ≤ τ) (h1 : τ ≤ 1) :
    (if 0 < dAMax a b ∧ dAMax a b < 1 then min (sinLat a b (dAMax a b)) (min a.z b.z)
       else min a.z b.z) ≤ sinLat a b τ := by
  have h := extreme_sin_encloses_max (flipz a) (flipz b) ((flipz_dot a a).trans ha)
    ((flipz_dot b b).trans hb) ((flipz_dot a b).trans_lt hd1) (hd2.trans_eq (flipz_dot a b).symm)
    τ h0 h1
  rw [flipz_dAMax, flipz_sinLat, flipz_sinLat] at h
  simp only [flipz] at h
  rw [max_neg_neg, max_neg_neg] at h
  split at h
  · rename_i hc; rw [if_pos hc]; linarith
  · rename_i hc; rw [if_neg hc]; linarith

/-! ### the transcription of `extreme_gca_latitude` in exact arithmetic -/

/-- the exact-arithmetic instance of the numeric runtime: real `√`, any monotone `asin`, no
    tolerance snapping.  `samePt` and `nearPt` are stubs (never true): every theorem that uses
    `realFn` on a face keeps the corners off the polar axis by hypothesis, so "a corner on the pole"
    does not arise and `touchesPole` is the `onGca` test alone. -/
noncomputable def realFn (f : ℝ → ℝ) : Fn ℝ :=
  { sqrt := Real.sqrt, asin := f, abs := fun x => |x|, close := fun _ _ => false, tol := 0, eps := 0,
    normalize := id, samePt := fun _ _ => false, nearPt := fun _ _ => false,
    atan2 := fun y x => Complex.arg ⟨x, y⟩, pi := Real.pi }

theorem z_sq_le_normSq (p : V3 ℝ) : p.z ^ 2 ≤ dot p p :=
  (sq p.z).le.trans (le_add_of_nonneg_left (add_nonneg (mul_self_nonneg _) (mul_self_nonneg _)))

theorem latOfN_unit (f : ℝ → ℝ) (hp : ℝ) (a : V3 ℝ) (ha : dot a a = 1) :
    latOfN (realFn f) hp a = f a.z := by
  have hz : |a.z| ≤ 1 := abs_le_one_iff_mul_self_le_one.mpr (by
    have := z_sq_le_normSq a
    rwa [ha, sq] at this)
  have e : a.x * a.x + a.y * a.y + a.z * a.z = 1 := ha
  simp only [latOfN, realFn, ha, Real.sqrt_one, div_one, e, abs_one, sub_zero]
  rw [if_neg (not_lt.mpr hz)]

theorem sinLat_abs_le_one (a b : V3 ℝ) (t : ℝ) (hN : 0 < dot (chord a b t) (chord a b t)) :
    -1 ≤ sinLat a b t ∧ sinLat a b t ≤ 1 := by
  have h := z_sq_le_normSq (chord a b t)
  have hs := Real.sqrt_pos.mpr hN
  have habs : |(chord a b t).z| ≤ Real.sqrt (dot (chord a b t) (chord a b t)) := Real.abs_le_sqrt h
  unfold sinLat
  constructor
  · rw [le_div_iff₀ hs]; linarith [neg_abs_le (chord a b t).z]
  · rw [div_le_iff₀ hs]; linarith [le_abs_self (chord a b t).z]

theorem clipK_id (x : ℝ) (h : -1 ≤ x ∧ x ≤ 1) : clipK x (-1) 1 = x := by
  unfold clipK
  rw [if_neg (not_lt.mpr h.1), if_neg (not_lt.mpr h.2)]

/-- the transcription of `extreme_gca_latitude` itself, run in exact
    arithmetic (`realFn`: real square root, any monotone inverse sine `f`, no tolerance snapping),
    encloses the latitude `f(sin lat)` of EVERY point of EVERY arc shorter than half a turn:
    `extremeLat … "min" ≤ lat(p(τ)) ≤ extremeLat … "max"` for all `τ ∈ [0, 1]`. -/
theorem extreme_encloses_arc (f : ℝ → ℝ) (hf : Monotone f) (hp : ℝ) (a b : V3 ℝ)
    (ha : dot a a = 1) (hb : dot b b = 1) (hd1 : dot a b < 1) (hd2 : -1 < dot a b)
    (τ : ℝ) (h0 : 0 ≤ τ) (h1 : τ ≤ 1) :
    extremeLat (realFn f) hp false a b ≤ f (sinLat a b τ) ∧
    f (sinLat a b τ) ≤ extremeLat (realFn f) hp true a b := by
  have hmax := hf (extreme_sin_encloses_max a b ha hb hd1 hd2 τ h0 h1)
  have hmin := hf (extreme_sin_encloses_min a b ha hb hd1 hd2 τ h0 h1)
  have hclose : ((realFn f).close (dAMax a b) 0 || (realFn f).close (dAMax a b) 1) = false := rfl
  unfold extremeLat
  simp only [hclose, Bool.false_eq_true, if_false, latOfN_unit f hp a ha, latOfN_unit f hp b hb]
  by_cases ht : 0 < dAMax a b ∧ dAMax a b < 1
  · -- the clip to `[-1, 1]` does nothing to a sine of latitude
    have hc : clipK ((chord a b (dAMax a b)).z /
        (realFn f).sqrt (dot (chord a b (dAMax a b)) (chord a b (dAMax a b)))) (-1) 1
        = sinLat a b (dAMax a b) :=
      clipK_id _ (sinLat_abs_le_one a b _ (chord_normSq_pos a b ha hb hd1.le hd2 _))
    rw [if_pos ht, hf.map_max, hf.map_max] at hmax
    rw [if_pos ht, hf.map_min, hf.map_min] at hmin
    simp only [if_pos ht, hc, max3, min3, maxK_eq_max, minK_eq_min, max_assoc, min_assoc]
    exact ⟨hmin, hmax⟩
  · rw [if_neg ht, hf.map_max] at hmax
    rw [if_neg ht, hf.map_min] at hmin
    simp only [if_neg ht, maxK_eq_max, minK_eq_min]
    exact ⟨hmin, hmax⟩

/-- non-vacuity: the arc from `(3/5, 0, 4/5)` to `(0, 3/5, 4/5)` bulges poleward of both ends
    (`d_a_max = 1/2 ∈ (0, 1)`), and the hypotheses hold -/
example : dot (⟨3/5, 0, 4/5⟩ : V3 ℝ) ⟨3/5, 0, 4/5⟩ = 1 ∧ dot (⟨0, 3/5, 4/5⟩ : V3 ℝ) ⟨0, 3/5, 4/5⟩ = 1 ∧
    dot (⟨3/5, 0, 4/5⟩ : V3 ℝ) ⟨0, 3/5, 4/5⟩ < 1 ∧ -1 < dot (⟨3/5, 0, 4/5⟩ : V3 ℝ) ⟨0, 3/5, 4/5⟩ ∧
    0 < rise (⟨3/5, 0, 4/5⟩ : V3 ℝ) ⟨0, 3/5, 4/5⟩ := by
  simp only [dot, rise]; norm_num

def strA : V3 ℚ := ⟨12/13, 4/13, -3/13⟩
def strB : V3 ℚ := ⟨-2/7, 3/7, 6/7⟩
/-- Rational witness: unit end points on opposite sides of the
    equator, an arc longer than a quarter turn (`a·b < 0`) and shorter than half a turn; the latitude rises
    when leaving EITHER end (`rise > 0` both ways: the apex is strictly inside the arc), `d_a_max ∈ (0,1)`,
    and the arc point there is higher than the higher end point: `z² / ‖p‖² > z_b²`. -/
theorem straddling_arc_not_monotone :
    dot strA strA = 1 ∧ dot strB strB = 1 ∧ strA.z < 0 ∧ 0 < strB.z ∧
    -1 < dot strA strB ∧ dot strA strB < 0 ∧
    0 < strB.z - dot strA strB * strA.z ∧ 0 < strA.z - dot strA strB * strB.z ∧
    0 < dAMax strA strB ∧ dAMax strA strB < 1 ∧
    0 < (chord strA strB (dAMax strA strB)).z ∧
    strB.z ^ 2 * dot (chord strA strB (dAMax strA strB)) (chord strA strB (dAMax strA strB))
      < (chord strA strB (dAMax strA strB)).z ^ 2 := by
  decide +kernel

theorem hasLat_between (b : Box ℝ) (x y w : ℝ) (hx : b.HasLat x) (hy : b.HasLat y)
    (h1 : x ≤ w) (h2 : w ≤ y) : b.HasLat w := by
  obtain ⟨p, hp, hxin⟩ := hx
  obtain ⟨q, hq, hyin⟩ := hy
  rw [hp] at hq
  cases hq
  exact ⟨p, hp, ⟨le_trans hxin.1 h1, le_trans h2 hyin.2⟩⟩

/-- run the repaired normal-face loop on ANY list of edges whose
    summaries carry the exact `extreme_gca_latitude` values; then for every edge (unit end points,
    shorter than half a turn) and every chord parameter `τ ∈ [0, 1]` the latitude of the arc point
    lies in `[lat_min, lat_max]`.  (Corners are the cases `τ = 0, 1`; they are also covered,
    together with their longitudes, by `lat_encloses_nodes`.) -/
theorem lat_encloses_every_arc_point (f : ℝ → ℝ) (hf : Monotone f) (c : Consts ℝ)
    (close : ℝ → ℝ → Bool) (north : Bool) (edges : List (Edge ℝ)) (e : Edge ℝ) (he : e ∈ edges)
    (ha : dot e.a e.a = 1) (hb : dot e.b e.b = 1) (hd1 : dot e.a e.b < 1) (hd2 : -1 < dot e.a e.b)
    (τ : ℝ) (h0 : 0 ≤ τ) (h1 : τ ≤ 1) :
    (normalLoop c close .repaired (edges.map (summ (realFn f) c.halfPi north))).HasLat
      (f (sinLat e.a e.b τ)) := by
  have hmem : summ (realFn f) c.halfPi north e ∈ edges.map (summ (realFn f) c.halfPi north) :=
    List.mem_map_of_mem he
  have h := lat_encloses_nodes c close _ _ hmem
  have hb' := extreme_encloses_arc f hf c.halfPi e.a e.b ha hb hd1 hd2 τ h0 h1
  exact hasLat_between _ _ _ _ h.2.2 h.2.1 hb'.1 hb'.2

/-! ## §D the repaired pole flag: winding about the polar axis -/

/-- horizontal projection of a point, as a complex number -/
noncomputable def hz (a : V3 ℝ) : ℂ := ⟨a.x, a.y⟩

/-- the increment is the difference of the arguments of the horizontal projections (as angles) -/
theorem lonIncrement_angle (f : ℝ → ℝ) (a b : V3 ℝ) (ha : hz a ≠ 0) (hb : hz b ≠ 0) :
    ((lonIncrement (realFn f) a b : ℝ) : Real.Angle)
      = (Complex.arg (hz b) : Real.Angle) - (Complex.arg (hz a) : Real.Angle) := by
  have e : (⟨a.x * b.x + a.y * b.y, a.x * b.y - a.y * b.x⟩ : ℂ) = (starRingEnd ℂ) (hz a) * hz b := by
    apply Complex.ext <;> simp [hz]
    ring
  show ((Complex.arg ⟨a.x * b.x + a.y * b.y, a.x * b.y - a.y * b.x⟩ : ℝ) : Real.Angle) = _
  rw [e, Complex.arg_mul_coe_angle ((map_ne_zero _).mpr ha) hb, Complex.arg_conj_coe_angle]
  abel

theorem onAxis_false (f : ℝ → ℝ) (a : V3 ℝ) (ha : hz a ≠ 0) : onAxis (realFn f) a = false := by
  have h := Complex.normSq_pos.mpr ha
  rw [Complex.normSq_apply] at h
  exact decide_eq_false (not_le.mpr (Real.sqrt_pos.mpr h))

/-- the (axis-aware) increment of one edge -/
noncomputable def edgeInc (f : ℝ → ℝ) (a b : V3 ℝ) : ℝ :=
  if onAxis (realFn f) a || onAxis (realFn f) b then 0 else lonIncrement (realFn f) a b

theorem edgeInc_angle (f : ℝ → ℝ) (a b : V3 ℝ) (ha : hz a ≠ 0) (hb : hz b ≠ 0) :
    ((edgeInc f a b : ℝ) : Real.Angle)
      = (Complex.arg (hz b) : Real.Angle) - (Complex.arg (hz a) : Real.Angle) := by
  unfold edgeInc
  rw [onAxis_false f a ha, onAxis_false f b hb]
  exact lonIncrement_angle f a b ha hb

/-- along a chain of corners off the axis the increments add up to the difference of the end
    arguments, as angles -/
theorem edgeInc_telescope (f : ℝ → ℝ) (a : V3 ℝ) (as : List (V3 ℝ)) (b : V3 ℝ) (s0 : ℝ)
    (ha : hz a ≠ 0) (has : ∀ v ∈ as, hz v ≠ 0) (hb : hz b ≠ 0) :
    ((((a :: as).zip (as ++ [b])).foldl (fun s p => s + edgeInc f p.1 p.2) s0 : ℝ) : Real.Angle)
      = (s0 : Real.Angle) + ((Complex.arg (hz b) : Real.Angle) - (Complex.arg (hz a) : Real.Angle)) := by
  induction as generalizing a s0 with
  | nil =>
    show ((s0 + edgeInc f a b : ℝ) : Real.Angle) = _
    rw [Real.Angle.coe_add, edgeInc_angle f a b ha hb]
  | cons x t ih =>
    have hx := has x List.mem_cons_self
    show ((((x :: t).zip (t ++ [b])).foldl _ (s0 + edgeInc f a x) : ℝ) : Real.Angle) = _
    rw [ih x (s0 + edgeInc f a x) hx (fun v hv => has v (List.mem_cons_of_mem _ hv)),
      Real.Angle.coe_add, edgeInc_angle f a x ha hx]
    abel

/-- the edges of the closed ring through the corners -/
def ringEdges (cs : List (V3 ℝ)) : List (Edge ℝ) :=
  (Oracle.cyc cs).map fun p => ⟨p.1, p.2, 0, 0, 0, 0⟩

/-- for EVERY closed ring of corners off the polar axis the sum of the
    wrapped longitude increments is an integer multiple of `2π` — so the repaired pole test
    `|winding| < π` separates "does not go around the axis" (`0`) from "goes around" (`±2π, …`) by a
    full `π`, with no reference meridian and no touch cases. -/
theorem winding_multiple_of_two_pi (f : ℝ → ℝ) (c : V3 ℝ) (cs : List (V3 ℝ))
    (h : ∀ v ∈ c :: cs, hz v ≠ 0) :
    ∃ k : ℤ, winding (realFn f) (ringEdges (c :: cs)) = k * (2 * Real.pi) := by
  have hc := h c List.mem_cons_self
  have ht := edgeInc_telescope f c cs c 0 hc (fun v hv => h v (List.mem_cons_of_mem _ hv)) hc
  rw [Real.Angle.coe_zero, zero_add, sub_self] at ht
  obtain ⟨n, hn⟩ := Real.Angle.coe_eq_zero_iff.mp ht
  refine ⟨n, ?_⟩
  rw [← zsmul_eq_mul, hn]
  -- `winding` folds `edgeInc` over the ring's edges
  exact List.foldl_map ..
theorem pi_le_turns (x : ℝ) (h : 1 ≤ x) : Real.pi ≤ x * (2 * Real.pi) := by
  have := mul_le_mul_of_nonneg_right h (mul_pos two_pos Real.pi_pos).le
  linarith [Real.pi_pos]

/-- for EVERY closed ring of corners off the polar axis whose edges do not
    touch a pole, the repaired `_pole_point_inside_polygon` flags a pole exactly when the boundary winds
    about the axis (winding number `k ≠ 0`), and then it flags exactly ONE of the two poles.
    (What links the winding number to "a pole lies strictly inside" is not proved: file header.) -/
theorem pole_flag_iff_winding (f : ℝ → ℝ) (c : V3 ℝ) (cs : List (V3 ℝ))
    (h : ∀ v ∈ c :: cs, hz v ≠ 0)
    (hnt : ∀ north, touchesPole (realFn f) north (ringEdges (c :: cs)) = false) :
    ∃ k : ℤ, winding (realFn f) (ringEdges (c :: cs)) = k * (2 * Real.pi) ∧
      ((poleInsideWinding (realFn f) true (ringEdges (c :: cs)) = true ∨
        poleInsideWinding (realFn f) false (ringEdges (c :: cs)) = true) ↔ k ≠ 0) ∧
      ¬ (poleInsideWinding (realFn f) true (ringEdges (c :: cs)) = true ∧
         poleInsideWinding (realFn f) false (ringEdges (c :: cs)) = true) := by
  obtain ⟨k, hk⟩ := winding_multiple_of_two_pi f c cs h
  refine ⟨k, hk, ?_⟩
  have hpi := Real.pi_pos
  unfold poleInsideWinding
  simp only [hnt, Bool.false_eq_true, if_false]
  have ea : ∀ x, (realFn f).abs x = |x| := fun _ => rfl
  have ep : (realFn f).pi = Real.pi := rfl
  simp only [ea, ep, hk]
  by_cases hk0 : k = 0
  · subst hk0
    simp [hpi]
  · have hge : Real.pi ≤ |(k : ℝ) * (2 * Real.pi)| := by
      rw [abs_mul, abs_of_pos (mul_pos two_pos Real.pi_pos)]
      exact pi_le_turns _ (by exact_mod_cast Int.one_le_abs hk0)
    have hnlt : ¬ |(k : ℝ) * (2 * Real.pi)| < Real.pi := not_lt.mpr hge
    simp only [hnlt, if_false]
    cases (decide (0 < (k : ℝ) * (2 * Real.pi)) == isCcw (ringEdges (c :: cs))) <;> simp [hk0]

/-- non-vacuity: a square ring around the north pole (direction vectors) keeps off the axis -/
example : ∃ k : ℤ, winding (realFn id)
    (ringEdges [⟨1, 0, 1⟩, ⟨0, 1, 1⟩, ⟨-1, 0, 1⟩, ⟨0, -1, 1⟩]) = k * (2 * Real.pi) :=
  winding_multiple_of_two_pi id _ _ (by
    intro v hv
    simp only [List.mem_cons, List.not_mem_nil, or_false] at hv
    rcases hv with rfl | rfl | rfl | rfl <;> simp [hz, Complex.ext_iff])

theorem exists_zip_of_mem {α : Type} {v : α} :
    ∀ {l l' : List α}, l.length ≤ l'.length → v ∈ l → ∃ w, (v, w) ∈ l.zip l'
  | x :: l, y :: l', hlen, hv => by
    rcases List.mem_cons.mp hv with rfl | h
    · exact ⟨y, List.mem_cons_self⟩
    · obtain ⟨w, hw⟩ := exists_zip_of_mem (Nat.le_of_succ_le_succ hlen) h
      exact ⟨w, List.mem_cons_of_mem _ hw⟩
  | _ :: _, [], hlen, _ => absurd hlen (Nat.not_succ_le_zero _)

theorem hz_ne_of_left (a b : V3 ℝ) (h : 0 < (cross a b).z) : hz a ≠ 0 ∧ hz b ≠ 0 := by
  have h0 : ∀ v : V3 ℝ, hz v = 0 → v.x = 0 ∧ v.y = 0 := fun v hv =>
    ⟨congrArg Complex.re hv, congrArg Complex.im hv⟩
  constructor <;> intro hc <;> obtain ⟨h1, h2⟩ := h0 _ hc <;>
    simp only [cross, h1, h2, mul_zero, zero_mul, sub_self, lt_self_iff_false] at h

theorem lonIncrement_pos (f : ℝ → ℝ) (a b : V3 ℝ) (h : 0 < (cross a b).z) :
    0 < lonIncrement (realFn f) a b :=
  lt_of_le_of_ne (Complex.arg_nonneg_iff.mpr h.le)
    fun h0 => h.ne' (Complex.arg_eq_zero_iff.mp h0.symm).2

theorem onGca_pole_false (f : ℝ → ℝ) (a b : V3 ℝ) (north : Bool) (h : 0 < (cross a b).z) :
    onGca (realFn f) a b (poleVec north) = false := by
  have hd : dot (cross a b) (poleVec north) ≠ 0 := by
    cases north <;> simp [dot, poleVec, h.ne']
  have h1 : ¬ |dot (cross a b) (poleVec north)| ≤
      0 * Real.sqrt (dot (cross a b) (cross a b)) * Real.sqrt (dot (poleVec north) (poleVec north)) := by
    rw [zero_mul, zero_mul]; exact not_le.mpr (abs_pos.mpr hd)
  unfold onGca
  exact Bool.and_eq_false_imp.mpr fun h2 => absurd (of_decide_eq_true (Bool.and_eq_true_iff.mp h2).1) h1

theorem poleInsideWinding_of_pos (f : ℝ → ℝ) (north : Bool) (edges : List (Edge ℝ))
    (hnt : touchesPole (realFn f) north edges = false)
    (hw : Real.pi ≤ winding (realFn f) edges) :
    poleInsideWinding (realFn f) north edges = (isCcw edges == north) := by
  have hpos : 0 < winding (realFn f) edges := Real.pi_pos.trans_le hw
  unfold poleInsideWinding
  rw [hnt]
  show (if |winding (realFn f) edges| < Real.pi then false
    else (decide (0 < winding (realFn f) edges) == isCcw edges) == north) = _
  rw [if_neg (by rw [abs_of_pos hpos]; exact not_lt.mpr hw), decide_eq_true hpos, Bool.true_beq]

/-- **the winding rule on every counter-clockwise ring with the north pole strictly to the left of
    every edge**: north yes, south no -/
theorem winding_rule_of_left (f : ℝ → ℝ) (c : V3 ℝ) (cs : List (V3 ℝ))
    (hleft : ∀ e ∈ ringEdges (c :: cs), 0 < (cross e.a e.b).z)
    (hccw : isCcw (ringEdges (c :: cs)) = true) :
    poleInsideWinding (realFn f) true (ringEdges (c :: cs)) = true ∧
    poleInsideWinding (realFn f) false (ringEdges (c :: cs)) = false := by
  have hnt : ∀ north, touchesPole (realFn f) north (ringEdges (c :: cs)) = false := fun north =>
    List.any_eq_false.mpr fun e he => by
      rw [onGca_pole_false f e.a e.b north (hleft e he)]; exact Bool.false_ne_true
  -- every increment is positive, so the winding is a positive multiple of `2π`
  have hpos : 0 < winding (realFn f) (ringEdges (c :: cs)) := by
    unfold winding
    rw [← List.foldl_map, ← List.sum_eq_foldl]
    refine List.sum_pos _ (fun x hx => ?_) (by cases cs <;> exact List.cons_ne_nil _ _)
    obtain ⟨e, he, rfl⟩ := List.mem_map.mp hx
    obtain ⟨ha, hb⟩ := hz_ne_of_left e.a e.b (hleft e he)
    rw [onAxis_false f e.a ha, onAxis_false f e.b hb]
    exact lonIncrement_pos f e.a e.b (hleft e he)
  -- every corner starts an edge, so it is off the axis
  have h : ∀ v ∈ c :: cs, hz v ≠ 0 := fun v hv => by
    obtain ⟨w, hw⟩ := exists_zip_of_mem (l' := cs ++ [c]) (by simp) hv
    exact (hz_ne_of_left v w (hleft _ (List.mem_map_of_mem hw))).1
  obtain ⟨k, hk⟩ := winding_multiple_of_two_pi f c cs h
  have hw : Real.pi ≤ winding (realFn f) (ringEdges (c :: cs)) := by
    rw [hk] at hpos ⊢
    have hk0 : (0 : ℝ) < k := pos_of_mul_pos_left hpos (mul_pos two_pos Real.pi_pos).le
    exact pi_le_turns _ (by exact_mod_cast (Int.cast_pos.mp hk0 : (0 : ℤ) < k))
  rw [poleInsideWinding_of_pos f true _ (hnt true) hw, poleInsideWinding_of_pos f false _ (hnt false) hw,
    hccw]
  exact ⟨rfl, rfl⟩

/-! ### which pole: the corners' mean latitude is NOT a criterion -/
/-- a convex triangle inside a hemisphere (rational unit vectors): one corner at 79.6°N on the
    meridian 180°, two corners at 33.1°S on the meridians ∓12.5° -/
def bigA : V3 ℚ := ⟨-11/61, 0, 60/61⟩
def bigB : V3 ℚ := ⟨9/11, -2/11, -6/11⟩
def bigC : V3 ℚ := ⟨9/11, 2/11, -6/11⟩

/-- the rule "the enclosed pole is the one on the side of the corners' summed z" -/
def meanzNorth (cs : List (V3 ℚ)) : Bool := decide (0 < (cs.map (·.z)).sum)

/-- the north pole is strictly left of every edge of the counter-clockwise ring -/
def northLeftOfAll (cs : List (V3 ℚ)) : Bool :=
  (Oracle.cyc cs).all fun e => decide (0 < (cross e.1 e.2).z)

theorem meanz_rule_wrong :
    -- unit vectors, every edge shorter than half a turn, all inside the hemisphere of (1,0,1)
    (dot bigA bigA = 1 ∧ dot bigB bigB = 1 ∧ dot bigC bigC = 1) ∧
    (-1 < dot bigA bigB ∧ -1 < dot bigB bigC ∧ -1 < dot bigC bigA) ∧
    (0 < dot bigA ⟨1, 0, 1⟩ ∧ 0 < dot bigB ⟨1, 0, 1⟩ ∧ 0 < dot bigC ⟨1, 0, 1⟩) ∧
    -- the north pole is strictly inside, the south pole is not
    northLeftOfAll [bigA, bigB, bigC] = true ∧
    -- yet the corners' summed z is negative: the mean-z rule answers "south"
    meanzNorth [bigA, bigB, bigC] = false := by
  decide +kernel

noncomputable def rA : V3 ℝ := ⟨-11/61, 0, 60/61⟩
noncomputable def rB : V3 ℝ := ⟨9/11, -2/11, -6/11⟩
noncomputable def rC : V3 ℝ := ⟨9/11, 2/11, -6/11⟩

/-- on the face of `meanz_rule_wrong` (same corners, over ℝ) the repaired
    `_pole_point_inside_polygon` — winding sign × orientation — answers "north: yes, south: no". -/
theorem winding_rule_right (f : ℝ → ℝ) :
    poleInsideWinding (realFn f) true (ringEdges [rA, rB, rC]) = true ∧
    poleInsideWinding (realFn f) false (ringEdges [rA, rB, rC]) = false := by
  have hAB : 0 < (cross rA rB).z := by simp only [cross, rA, rB]; norm_num
  have hBC : 0 < (cross rB rC).z := by simp only [cross, rB, rC]; norm_num
  have hCA : 0 < (cross rC rA).z := by simp only [cross, rC, rA]; norm_num
  refine winding_rule_of_left f rA [rB, rC] ?_ ?_
  · intro e he
    have he' : e ∈ [(⟨rA, rB, 0, 0, 0, 0⟩ : Edge ℝ), ⟨rB, rC, 0, 0, 0, 0⟩, ⟨rC, rA, 0, 0, 0, 0⟩] := he
    simp only [List.mem_cons, List.not_mem_nil, or_false] at he'
    rcases he' with rfl | rfl | rfl <;> assumption
  · simp only [isCcw, ringEdges, Oracle.cyc, List.zip_cons_cons, List.cons_append, List.nil_append,
      List.zip_nil_right, List.map_cons, List.map_nil, List.foldl_cons, List.foldl_nil, vadd, cross,
      dot, rA, rB, rC, decide_eq_true_eq]
    norm_num

end UxVerif.C13
