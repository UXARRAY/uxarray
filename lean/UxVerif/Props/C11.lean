/-
  C11 — Neighbour queries agree with brute-force search under the tree's metric.
  Part A (any total transitive Boolean comparison, e.g. `leK`; nothing is proved about `Float`'s
          `≤`): brute force meets the k-nearest / radius specs for lists of ANY length
          (`knn_meets_spec`, `radius_meets_spec`), the driver's Booleans reflect them
          (`knnSpecB_iff`, `radiusSpecB_iff`), without ties the answer is unique (`knn_unique`).
  Part B (ℝ): `chord_mono`, `chord_eq_chord_of_hav`, `haversine_eq_angle`, hence
          `cartesian_knn_eq_haversine_knn`; units: `unit_roundtrip`, `planar_degrees`, `doc_*`.
  Part C: the tree cache — `tree_reflects_request` after ANY history; `asis_cache_stale`.
  Part D: ties and near-ties — `knn_ties_profile`, `knn_spec_of_profile`, `knn_tol_profile` (the
          driver's criterion for rows with near-ties, which are JUDGED, not dropped).
  Not proved: the sklearn trees are ASSUMED to return what brute force returns (validated per run).
-/
import Mathlib.Analysis.SpecialFunctions.Trigonometric.Inverse
import Mathlib.Tactic.Ring
import Mathlib.Tactic.Linarith
import Mathlib.Tactic.FieldSimp
import Mathlib.Tactic.LinearCombination
import Mathlib.Tactic.NormNum
import Mathlib.Algebra.Order.Field.Basic
import UxVerif.Lemmas.Knn

namespace UxVerif.C11
open UxVerif UxVerif.Knn

/-! ## Part A — brute force meets the specification -/

section LeK
variable {K : Type} [LinearOrder K]

/-- `≤` of a linear order as the Boolean comparison of the model (`leI`, `leR`: at `Int`, `ℝ`) -/
def leK (a b : K) : Bool := decide (a ≤ b)

theorem leK_total : Total (leK (K := K)) := decide_le_total
theorem leK_trans : Trans (leK (K := K)) := decide_le_trans

end LeK

section Search
variable {K : Type}

/-- The k-nearest specification on index lists (what `knnSpecB` decides). -/
structure KnnSpec (le : K → K → Bool) (D : List K) (k : Nat) (out : List Nat) : Prop where
  len : out.length = min k D.length
  range : ∀ i ∈ out, i < D.length
  nodup : out.Nodup
  /-- nearest first -/
  sorted : out.Pairwise (fun i j => leO le D[i]? D[j]? = true)
  /-- every element not returned is at least as far as every returned one -/
  minimal : ∀ i ∈ out, ∀ j, j < D.length → j ∉ out → leO le D[i]? D[j]? = true

/-- The radius specification: `j` is returned iff `D[j] ≤ r`. -/
structure RadiusSpec (le : K → K → Bool) (D : List K) (r : K) (out : List Nat) : Prop where
  range : ∀ i ∈ out, i < D.length
  nodup : out.Nodup
  iff : ∀ j, j < D.length → (j ∈ out ↔ leO le D[j]? (some r) = true)

/-- the Boolean the driver evaluates on the implementation's output IS the specification -/
theorem knnSpecB_iff (le : K → K → Bool) (D : List K) (k : Nat) (out : List Nat) :
    knnSpecB le D k out = true ↔ KnnSpec le D k out := by
  unfold knnSpecB sortedIdx
  simp only [Bool.and_eq_true, beq_iff_eq, List.all_eq_true, decide_eq_true_eq, pairwiseB_iff,
    Bool.or_eq_true, List.contains_iff_mem, List.mem_range, Decidable.or_iff_not_imp_left]
  exact ⟨fun ⟨⟨⟨⟨h1, h2⟩, h3⟩, h4⟩, h5⟩ => ⟨h1, h2, h3, h4, h5⟩,
    fun ⟨h1, h2, h3, h4, h5⟩ => ⟨⟨⟨⟨h1, h2⟩, h3⟩, h4⟩, h5⟩⟩

theorem radiusSpecB_iff (le : K → K → Bool) (D : List K) (r : K) (out : List Nat) :
    radiusSpecB le D r out = true ↔ RadiusSpec le D r out := by
  unfold radiusSpecB
  simp only [Bool.and_eq_true, List.all_eq_true, decide_eq_true_eq, List.mem_range, beq_iff_eq]
  exact ⟨fun ⟨⟨h1, h2⟩, h3⟩ => ⟨h1, h2, fun j hj => by rw [← List.contains_iff_mem, h3 j hj]⟩,
    fun ⟨h1, h2, h3⟩ =>
      ⟨⟨h1, h2⟩, fun j hj => Bool.eq_iff_iff.mpr (List.contains_iff_mem.trans (h3 j hj))⟩⟩

/-- **nearest first** -/
theorem knn_sorted {le : K → K → Bool} (htot : Total le) (htr : Trans le) (D : List K) (k : Nat) :
    (bruteKnn le D k).Pairwise (fun a b => le a.1 b.1 = true) :=
  bruteKnn_sorted htot htr D k

/-- **minimality**: every element that is NOT returned is at least as far as every returned one -/
theorem knn_minimal {le : K → K → Bool} (htot : Total le) (htr : Trans le) (D : List K) (k : Nat)
    (p : K × Nat) (hp : p ∈ bruteKnn le D k) (j : Nat) (d : K) (hj : D[j]? = some d)
    (hnot : j ∉ (bruteKnn le D k).map Prod.snd) : le p.1 d = true :=
  bruteKnn_minimal htot htr D k p hp j d hj hnot

/-- **refinement**: the brute-force model satisfies the k-nearest specification for every
    distance list and every `k` -/
theorem knn_meets_spec {le : K → K → Bool} (htot : Total le) (htr : Trans le) (D : List K) (k : Nat) :
    KnnSpec le D k ((bruteKnn le D k).map Prod.snd) := by
  have hget : ∀ p ∈ bruteKnn le D k, D[p.2]? = some p.1 := bruteKnn_mem le D k
  refine ⟨by rw [List.length_map, bruteKnn_length], ?_, bruteKnn_nodup le D k, ?_, ?_⟩
  · intro i hi
    obtain ⟨p, hp, rfl⟩ := List.mem_map.mp hi
    exact (List.getElem?_eq_some_iff.mp (hget p hp)).1
  · rw [List.pairwise_map]
    refine List.Pairwise.imp_of_mem ?_ (knn_sorted htot htr D k)
    intro a b ha hb hab
    rw [hget a ha, hget b hb]; exact hab
  · intro i hi j hj hnot
    obtain ⟨p, hp, rfl⟩ := List.mem_map.mp hi
    obtain ⟨d, hd⟩ : ∃ d, D[j]? = some d := ⟨D[j], List.getElem?_eq_getElem hj⟩
    rw [hget p hp, hd]
    exact knn_minimal htot htr D k p hp j d hd hnot

/-- **radius search**: `(d, i)` is returned iff `i` is an element, `d` its distance and `d ≤ r` -/
theorem radius_iff (le : K → K → Bool) (D : List K) (r : K) (p : K × Nat) :
    p ∈ bruteRadius le D r ↔ D[p.2]? = some p.1 ∧ le p.1 r = true := by
  unfold bruteRadius
  rw [List.mem_filter, List.mem_zipIdx_iff_getElem?]

theorem mem_radius_iff (le : K → K → Bool) (D : List K) (r : K) (i : Nat) :
    i ∈ (bruteRadius le D r).map Prod.snd ↔ ∃ d, D[i]? = some d ∧ le d r = true := by
  constructor
  · intro h
    obtain ⟨p, hp, rfl⟩ := List.mem_map.mp h
    exact ⟨p.1, (radius_iff le D r p).mp hp⟩
  · rintro ⟨d, h⟩
    exact List.mem_map.mpr ⟨(d, i), (radius_iff le D r _).mpr h, rfl⟩

theorem radius_meets_spec (le : K → K → Bool) (D : List K) (r : K) :
    RadiusSpec le D r ((bruteRadius le D r).map Prod.snd) := by
  refine ⟨?_, ?_, ?_⟩
  · intro i hi
    obtain ⟨d, hd, _⟩ := (mem_radius_iff le D r i).mp hi
    exact (List.getElem?_eq_some_iff.mp hd).1
  · exact (zipIdx_snd_nodup D).sublist (List.Sublist.map _ List.filter_sublist)
  · intro j hj
    rw [mem_radius_iff, List.getElem?_eq_getElem hj]
    exact ⟨fun ⟨d, hd, h⟩ => by cases hd; exact h, fun h => ⟨_, rfl, h⟩⟩

end Search

/-- no two distinct elements are equidistant from the query ("exact ties aside") -/
def NoTies {K : Type} (le : K → K → Bool) (D : List K) : Prop :=
  ∀ i j, i < D.length → j < D.length →
    leO le D[i]? D[j]? = true → leO le D[j]? D[i]? = true → i = j

/-- without ties the specification has at most one solution -/
theorem spec_unique {K : Type} {le : K → K → Bool} (D : List K) (k : Nat) (A B : List Nat)
    (hnt : NoTies le D) (hA : KnnSpec le D k A) (hB : KnnSpec le D k B) : A = B :=
  eq_of_sorted_minimal (· < D.length) hA.nodup hB.nodup (by rw [hA.len, hB.len]) hA.range hB.range
    hA.sorted hB.sorted hA.minimal hB.minimal hnt

/-- **exact ties aside, the answer is determined**: any output accepted by the specification is
    the brute-force answer, element for element and in the same order -/
theorem knn_unique {K : Type} {le : K → K → Bool} (htot : Total le) (htr : Trans le) (D : List K)
    (k : Nat) (out : List Nat) (hnt : NoTies le D) (h : KnnSpec le D k out) :
    out = (bruteKnn le D k).map Prod.snd :=
  spec_unique D k _ _ hnt h (knn_meets_spec htot htr D k)

/-- the radius answer is determined as a set (no tie condition needed) -/
theorem radius_unique {K : Type} {le : K → K → Bool} (D : List K) (r : K) (out : List Nat)
    (h : RadiusSpec le D r out) : ∀ j, j ∈ out ↔ j ∈ (bruteRadius le D r).map Prod.snd := by
  intro j
  have hm := radius_meets_spec le D r
  constructor
  · intro hj; exact (hm.iff j (h.range j hj)).mpr ((h.iff j (h.range j hj)).mp hj)
  · intro hj; exact (h.iff j (hm.range j hj)).mpr ((hm.iff j (hm.range j hj)).mp hj)

/-! non-vacuity: a five-element distance list over `Int`, k = 3 -/
def leI (a b : Int) : Bool := decide (a ≤ b)
theorem leI_total : Total leI := leK_total
theorem leI_trans : Trans leI := leK_trans
example : (bruteKnn leI [5, 1, 4, 1, 9] 3).map Prod.snd = [1, 3, 2] := by decide +kernel
example : knnSpecB leI [5, 1, 4, 1, 9] 3 [1, 3, 2] = true := by decide +kernel
example : knnSpecB leI [5, 1, 4, 1, 9] 3 [3, 1, 2] = true := by decide +kernel   -- the other tie order
example : knnSpecB leI [5, 1, 4, 1, 9] 3 [1, 3, 0] = false := by decide +kernel  -- a farther element
example : knnSpecB leI [5, 1, 4, 1, 9] 3 [1, 2, 3] = false := by decide +kernel  -- not nearest first
example : (bruteRadius leI [5, 1, 4, 1, 9] 4).map Prod.snd = [1, 2, 3] := by decide +kernel
example : radiusSpecB leI [5, 1, 4, 1, 9] 4 [3, 2, 1] = true := by decide +kernel
example : radiusSpecB leI [5, 1, 4, 1, 9] 4 [3, 1] = false := by decide +kernel


section Wrapper
variable {K : Type} [Add K] [Sub K] [Mul K] [Div K] [OfNat K 0] [OfNat K 2] [OfNat K 180]

/-- **`query` refines the specification**: whenever the model answers, `k` is in `1..n`, the
    indices satisfy the k-nearest specification for the tree-unit distances of the prepared
    query, and every reported distance is the unit conversion of that element's distance. -/
theorem model_query_spec (F : Fns K) {le : K → K → Bool} (htot : Total le) (htr : Trans le)
    (c : Cfg) (els : List (List K)) (q : List K) (k : Nat) (ans : List (K × Nat))
    (h : modelQuery F le c els q k = some ans) :
    ∃ D, distances F c els q = some D ∧ 1 ≤ k ∧ k ≤ els.length ∧ D.length = els.length ∧
      KnnSpec le D k (ans.map Prod.snd) ∧
      ∀ p ∈ ans, ∃ d, D[p.2]? = some d ∧ p.1 = reportDist F c.sys c.inRad d := by
  unfold modelQuery at h
  split at h
  · cases h
  · rename_i hk
    simp only [Bool.or_eq_true, decide_eq_true_eq, not_or, Nat.not_lt] at hk
    obtain ⟨D, hD, rfl⟩ := Option.map_eq_some_iff.mp h
    have hlen : D.length = els.length := by
      obtain ⟨pq, _, rfl⟩ := Option.map_eq_some_iff.mp hD
      exact List.length_map _
    refine ⟨D, hD, hk.1, hk.2, hlen, ?_, ?_⟩
    · rw [List.map_map]
      exact knn_meets_spec htot htr D k
    · intro p hp
      obtain ⟨p0, hp0, rfl⟩ := List.mem_map.mp hp
      exact ⟨p0.1, bruteKnn_mem le D k p0 hp0, rfl⟩

/-- **guards**: `k < 1` or `k > n` is rejected whatever the query -/
theorem model_query_guard (F : Fns K) (le : K → K → Bool) (c : Cfg) (els : List (List K))
    (q : List K) (k : Nat) (h : k < 1 ∨ els.length < k) : modelQuery F le c els q k = none := by
  unfold modelQuery
  rw [if_pos]
  simp only [Bool.or_eq_true, decide_eq_true_eq]
  exact h

/-- **`query_radius` refines the specification** (in the tree's unit, for the radius the wrapper
    hands to the tree) -/
theorem model_radius_spec (F : Fns K) (le : K → K → Bool) (v : Variant)
    (c : Cfg) (els : List (List K)) (q : List K) (r : K) (ans : List (K × Nat))
    (h : modelRadius F le v c els q r = some ans) :
    ∃ D, distances F c els q = some D ∧ le 0 r = true ∧
      RadiusSpec le D (radiusIn F v c.kind c.sys r) (ans.map Prod.snd) ∧
      ∀ p ∈ ans, ∃ d, D[p.2]? = some d ∧ p.1 = reportDist F c.sys c.inRad d := by
  unfold modelRadius at h
  split at h
  · cases h
  · rename_i hr
    simp only [Bool.not_eq_eq_eq_not] at hr
    obtain ⟨D, hD, rfl⟩ := Option.map_eq_some_iff.mp h
    refine ⟨D, hD, by simpa using hr, ?_, ?_⟩
    · rw [List.map_map]
      exact radius_meets_spec le D _
    · intro p hp
      obtain ⟨p0, hp0, rfl⟩ := List.mem_map.mp hp
      exact ⟨p0.1, ((radius_iff le D _ p0).mp hp0).1, rfl⟩

/-- a negative radius is rejected -/
theorem model_radius_guard (F : Fns K) (le : K → K → Bool) (v : Variant) (c : Cfg)
    (els : List (List K)) (q : List K) (r : K) (h : le 0 r = false) :
    modelRadius F le v c els q r = none := by
  unfold modelRadius
  rw [if_pos]; rw [h]; rfl

end Wrapper

/-! ## Part B — metrics and units over ℝ -/

section Reals
open Real

/-- the real-number instance of the primitives (what libm approximates) -/
noncomputable def FR : Fns ℝ :=
  { sin := Real.sin, cos := Real.cos, asin := Real.arcsin, sqrt := Real.sqrt,
    abs := fun x => |x|, max := max, pi := Real.pi }

noncomputable def leR (a b : ℝ) : Bool := decide (a ≤ b)
theorem leR_total : Total leR := leK_total
theorem leR_trans : Trans leR := leK_trans

/-- chord length subtending the angle θ on the unit sphere -/
noncomputable def chord (θ : ℝ) : ℝ := 2 * Real.sin (θ / 2)

theorem half_mem_Icc {θ : ℝ} (h0 : 0 ≤ θ) (h1 : θ ≤ π) : θ / 2 ∈ Set.Icc (-(π / 2)) (π / 2) :=
  ⟨(neg_nonpos.mpr (div_nonneg Real.pi_pos.le two_pos.le)).trans (div_nonneg h0 two_pos.le),
    div_le_div_of_nonneg_right h1 two_pos.le⟩

/-- **chord = 2·sin(θ/2) is strictly increasing on [0, π]** -/
theorem chord_mono (θ₁ θ₂ : ℝ) (h1 : 0 ≤ θ₁) (h1' : θ₁ ≤ π) (h2 : 0 ≤ θ₂) (h2' : θ₂ ≤ π) :
    chord θ₁ ≤ chord θ₂ ↔ θ₁ ≤ θ₂ := by
  unfold chord
  rw [mul_le_mul_iff_of_pos_left two_pos,
    Real.strictMonoOn_sin.le_iff_le (half_mem_Icc h1 h1') (half_mem_Icc h2 h2'),
    div_le_div_iff_of_pos_right two_pos]

theorem chord_strict_mono (θ₁ θ₂ : ℝ) (h1 : 0 ≤ θ₁) (h1' : θ₁ ≤ π) (h2 : 0 ≤ θ₂) (h2' : θ₂ ≤ π) :
    chord θ₁ < chord θ₂ ↔ θ₁ < θ₂ := by
  rw [← not_le, ← not_le, chord_mono θ₂ θ₁ h2 h2' h1 h1']

/-- **chord-nearest = great-circle-nearest**: ranking the elements by chord length returns the
    same elements in the same order as ranking them by the angle, for every list of angles in
    [0, π], every `k` -/
theorem chord_nearest_eq_arc_nearest (Θ : List ℝ) (k : Nat) (h : ∀ θ ∈ Θ, 0 ≤ θ ∧ θ ≤ π) :
    (bruteKnn leR (Θ.map chord) k).map Prod.snd = (bruteKnn leR Θ k).map Prod.snd :=
  knn_rekey leR leR chord Θ k fun a ha b hb =>
    decide_eq_decide.mpr (chord_mono a b (h a ha).1 (h a ha).2 (h b hb).1 (h b hb).2)

/-- and the same elements fall within a chord radius as within the corresponding angle -/
theorem chord_radius_eq_arc_radius (Θ : List ℝ) (ρ : ℝ) (hρ : 0 ≤ ρ ∧ ρ ≤ π)
    (h : ∀ θ ∈ Θ, 0 ≤ θ ∧ θ ≤ π) :
    (bruteRadius leR (Θ.map chord) (chord ρ)).map Prod.snd = (bruteRadius leR Θ ρ).map Prod.snd :=
  radius_rekey leR leR chord Θ ρ fun a ha =>
    decide_eq_decide.mpr (chord_mono a ρ (h a ha).1 (h a ha).2 hρ.1 hρ.2)

/-- non-vacuity of the [0, π] hypothesis of `chord_nearest_eq_arc_nearest` -/
example : ∀ θ ∈ [Real.pi, 0, Real.pi / 2], 0 ≤ θ ∧ θ ≤ Real.pi := by
  intro θ hθ
  simp only [List.mem_cons, List.not_mem_nil, or_false] at hθ
  rcases hθ with rfl | rfl | rfl
  exacts [⟨Real.pi_pos.le, le_rfl⟩, ⟨le_rfl, Real.pi_pos.le⟩,
    ⟨(half_pos Real.pi_pos).le, half_le_self Real.pi_pos.le⟩]

/-- cosine of the great-circle angle between the (lat, lon) points `(φ₁, l₁)` and `(φ₂, l₂)` -/
noncomputable def cosArc (φ₁ l₁ φ₂ l₂ : ℝ) : ℝ :=
  Real.cos φ₁ * Real.cos φ₂ * Real.cos (l₁ - l₂) + Real.sin φ₁ * Real.sin φ₂

theorem sin_sq_half_eq (x : ℝ) : Real.sin (x / 2) ^ 2 = (1 - Real.cos x) / 2 := by
  rw [Real.sin_sq_eq_half_sub, mul_div_cancel₀ x two_ne_zero, sub_div]

theorem havArg_eq (φ₁ l₁ φ₂ l₂ : ℝ) :
    havArg FR φ₁ l₁ φ₂ l₂ = (1 - cosArc φ₁ l₁ φ₂ l₂) / 2 := by
  have e1 := sin_sq_half_eq (φ₁ - φ₂)
  have e2 := sin_sq_half_eq (l₁ - l₂)
  rw [Real.cos_sub] at e1
  simp only [havArg, FR, Knn.sq, cosArc]
  linear_combination e1 + Real.cos φ₁ * Real.cos φ₂ * e2

theorem dot_xyzOf_eq_cosArc (φ₁ l₁ φ₂ l₂ : ℝ) :
    Knn.sum (List.zipWith (fun x y => x * y) (xyzOf FR φ₁ l₁) (xyzOf FR φ₂ l₂))
      = cosArc φ₁ l₁ φ₂ l₂ := by
  simp only [xyzOf, FR, Knn.sum, List.zipWith_cons_cons, List.zipWith_nil_right, List.foldr_cons,
    List.foldr_nil, cosArc, Real.cos_sub]
  ring

theorem sq_dist_xyzOf_eq_cosArc (φ₁ l₁ φ₂ l₂ : ℝ) :
    Knn.sum (List.zipWith (fun x y => Knn.sq (x - y)) (xyzOf FR φ₁ l₁) (xyzOf FR φ₂ l₂))
      = 2 - 2 * cosArc φ₁ l₁ φ₂ l₂ := by
  simp only [xyzOf, FR, Knn.sum, Knn.sq, List.zipWith_cons_cons, List.zipWith_nil_right,
    List.foldr_cons, List.foldr_nil, cosArc, Real.cos_sub]
  linear_combination Real.cos φ₁ ^ 2 * Real.sin_sq_add_cos_sq l₁
    + Real.cos φ₂ ^ 2 * Real.sin_sq_add_cos_sq l₂
    + Real.sin_sq_add_cos_sq φ₁ + Real.sin_sq_add_cos_sq φ₂

theorem sum_sq_nonneg (a b : List ℝ) :
    0 ≤ Knn.sum (List.zipWith (fun x y => Knn.sq (x - y)) a b) := by
  induction a generalizing b with
  | nil => exact le_refl _
  | cons x a ih =>
    cases b with
    | nil => exact le_refl _
    | cons y b => exact add_nonneg (mul_self_nonneg _) (ih b)

theorem cosArc_le_one (φ₁ l₁ φ₂ l₂ : ℝ) : cosArc φ₁ l₁ φ₂ l₂ ≤ 1 := by
  have h := sq_dist_xyzOf_eq_cosArc φ₁ l₁ φ₂ l₂
  have := sum_sq_nonneg (xyzOf FR φ₁ l₁) (xyzOf FR φ₂ l₂)
  linarith

/-- the angle to the antipode `(−φ₂, l₂ + π)` is the supplement -/
theorem cosArc_antipode (φ₁ l₁ φ₂ l₂ : ℝ) :
    cosArc φ₁ l₁ (-φ₂) (l₂ + π) = -cosArc φ₁ l₁ φ₂ l₂ := by
  unfold cosArc
  rw [Real.cos_neg, Real.sin_neg, ← sub_sub, Real.cos_sub_pi]
  ring

theorem havArg_range (φ₁ l₁ φ₂ l₂ : ℝ) :
    0 ≤ havArg FR φ₁ l₁ φ₂ l₂ ∧ havArg FR φ₁ l₁ φ₂ l₂ ≤ 1 := by
  -- `−1 ≤ cosArc` is `cosArc ≤ 1` at the antipode
  have h1 := cosArc_le_one φ₁ l₁ φ₂ l₂
  have h2 := cosArc_le_one φ₁ l₁ (-φ₂) (l₂ + π)
  rw [cosArc_antipode] at h2
  rw [havArg_eq]
  constructor <;> linarith

theorem hav_eq (φ₁ l₁ φ₂ l₂ : ℝ) :
    hav FR [φ₁, l₁] [φ₂, l₂] = 2 * Real.arcsin (Real.sqrt (havArg FR φ₁ l₁ φ₂ l₂)) := rfl

theorem hav_range (φ₁ l₁ φ₂ l₂ : ℝ) :
    0 ≤ hav FR [φ₁, l₁] [φ₂, l₂] ∧ hav FR [φ₁, l₁] [φ₂, l₂] ≤ π := by
  rw [hav_eq]
  have h0 := Real.arcsin_nonneg.mpr (Real.sqrt_nonneg (havArg FR φ₁ l₁ φ₂ l₂))
  have h1 := Real.arcsin_le_pi_div_two (Real.sqrt (havArg FR φ₁ l₁ φ₂ l₂))
  constructor <;> linarith

/-- **the Cartesian (chord) distance between two (lat, lon) points is 2·sin(haversine/2)** -/
theorem chord_eq_chord_of_hav (φ₁ l₁ φ₂ l₂ : ℝ) :
    l2 FR (xyzOf FR φ₁ l₁) (xyzOf FR φ₂ l₂) = chord (hav FR [φ₁, l₁] [φ₂, l₂]) := by
  obtain ⟨h0, h1⟩ := havArg_range φ₁ l₁ φ₂ l₂
  unfold l2 chord
  rw [sq_dist_xyzOf_eq_cosArc, hav_eq, mul_div_cancel_left₀ _ two_ne_zero,
    Real.sin_arcsin (by linarith [Real.sqrt_nonneg (havArg FR φ₁ l₁ φ₂ l₂)])
      (Real.sqrt_le_one.mpr h1),
    show 2 - 2 * cosArc φ₁ l₁ φ₂ l₂ = 2 ^ 2 * havArg FR φ₁ l₁ φ₂ l₂ by rw [havArg_eq]; ring]
  show Real.sqrt _ = _
  rw [Real.sqrt_mul (by positivity), Real.sqrt_sq (by norm_num)]

/-- **haversine is the angle between the two unit vectors**: `hav = arccos (u · v)` -/
theorem haversine_eq_angle (φ₁ l₁ φ₂ l₂ : ℝ) :
    hav FR [φ₁, l₁] [φ₂, l₂]
      = Real.arccos (Knn.sum (List.zipWith (fun x y => x * y) (xyzOf FR φ₁ l₁) (xyzOf FR φ₂ l₂))) := by
  obtain ⟨r0, r1⟩ := hav_range φ₁ l₁ φ₂ l₂
  obtain ⟨h0, h1⟩ := havArg_range φ₁ l₁ φ₂ l₂
  rw [← Real.arccos_cos r0 r1, dot_xyzOf_eq_cosArc, hav_eq, Real.cos_two_mul, Real.cos_sq',
    Real.sin_arcsin (by linarith [Real.sqrt_nonneg (havArg FR φ₁ l₁ φ₂ l₂)])
      (Real.sqrt_le_one.mpr h1),
    Real.sq_sqrt h0, havArg_eq]
  congr 1
  ring

/-- **Cartesian trees rank exactly like the haversine ball tree**: for elements and a query
    given as (lat, lon) in radians, the k nearest by chord length between the unit vectors are
    the k nearest by great-circle distance, in the same order (any number of elements). -/
theorem cartesian_knn_eq_haversine_knn (q : ℝ × ℝ) (els : List (ℝ × ℝ)) (k : Nat) :
    (bruteKnn leR (els.map (fun e => l2 FR (xyzOf FR q.1 q.2) (xyzOf FR e.1 e.2))) k).map Prod.snd
      = (bruteKnn leR (els.map (fun e => hav FR [q.1, q.2] [e.1, e.2])) k).map Prod.snd := by
  have : els.map (fun e => l2 FR (xyzOf FR q.1 q.2) (xyzOf FR e.1 e.2))
      = (els.map (fun e => hav FR [q.1, q.2] [e.1, e.2])).map chord := by
    rw [List.map_map]
    apply List.map_congr_left
    intro e _
    exact chord_eq_chord_of_hav q.1 q.2 e.1 e.2
  rw [this]
  apply chord_nearest_eq_arc_nearest
  intro θ hθ
  obtain ⟨e, _, rfl⟩ := List.mem_map.mp hθ
  exact hav_range q.1 q.2 e.1 e.2

/-- **deg ↔ rad round trip** -/
theorem unit_roundtrip (x : ℝ) : r2d FR (d2r FR x) = x ∧ d2r FR (r2d FR x) = x := by
  have h : Real.pi / 180 * (180 / Real.pi) = 1 := by
    have := Real.pi_ne_zero
    field_simp
  constructor
  · show x * (Real.pi / 180) * (180 / Real.pi) = x
    rw [mul_assoc, h, mul_one]
  · show x * (180 / Real.pi) * (Real.pi / 180) = x
    rw [mul_assoc, mul_comm (180 / Real.pi), h, mul_one]

/-- a distance reported in degrees is within `r` degrees iff the tree-unit (radian) distance is
    within `deg2rad r` -/
theorem reported_le_iff (d r : ℝ) : r2d FR d ≤ r ↔ d ≤ d2r FR r := by
  simp only [r2d, d2r, FR]
  have hc : (0 : ℝ) < 180 / Real.pi := by positivity
  have : Real.pi / 180 = (180 / Real.pi)⁻¹ := by rw [inv_div]
  rw [this, ← div_eq_mul_inv, le_div_iff₀ hc]

theorem sum_sq_scale (c : ℝ) (a b : List ℝ) :
    Knn.sum (List.zipWith (fun x y => Knn.sq (x - y)) (a.map (· * c)) (b.map (· * c)))
      = c ^ 2 * Knn.sum (List.zipWith (fun x y => Knn.sq (x - y)) a b) := by
  induction a generalizing b with
  | nil => simp [Knn.sum]
  | cons x a ih =>
    cases b with
    | nil => simp [Knn.sum]
    | cons y b =>
      have := ih b
      simp only [Knn.sum, List.map_cons, List.zipWith_cons_cons, List.foldr_cons, Knn.sq] at this ⊢
      rw [this]; ring

/-- **Cartesian trees on a grid stored at radius `R`**: the tree metric is the chord between the
    STORED points, `R` times the unit-sphere chord (rows of any width) -/
theorem cartesian_radius_scale (R : ℝ) (hR : 0 ≤ R) (a b : List ℝ) :
    l2 FR (a.map (· * R)) (b.map (· * R)) = R * l2 FR a b := by
  unfold l2
  rw [sum_sq_scale]
  simp only [FR]
  rw [Real.sqrt_mul (by positivity), Real.sqrt_sq hR]

/-- hence, for `R > 0`, the same elements are returned in the same order as on the unit sphere -/
theorem cartesian_radius_knn (R : ℝ) (hR : 0 < R) (q : List ℝ) (els : List (List ℝ)) (k : Nat) :
    (bruteKnn leR (els.map (fun e => l2 FR (q.map (· * R)) (e.map (· * R)))) k).map Prod.snd
      = (bruteKnn leR (els.map (fun e => l2 FR q e)) k).map Prod.snd := by
  have : els.map (fun e => l2 FR (q.map (· * R)) (e.map (· * R)))
      = (els.map (fun e => l2 FR q e)).map (fun d => R * d) := by
    rw [List.map_map]
    apply List.map_congr_left
    intro e _
    exact cartesian_radius_scale R hR.le q e
  rw [this]
  exact knn_rekey leR leR _ _ k fun a _ b _ =>
    decide_eq_decide.mpr (mul_le_mul_iff_of_pos_left hR)

example : l2 FR ([1, 0, 0].map (· * (5 / 2))) ([0, 1, 0].map (· * (5 / 2))) = 5 / 2 * l2 FR [1, 0, 0] [0, 1, 0] :=
  cartesian_radius_scale (5 / 2) (by norm_num) _ _

/-- **planar (lat, lon) distance is reported in the unit of the inputs**: querying a spherical
    k-d tree in degrees gives the Euclidean distance of the degree pairs (rows of any width) -/
theorem planar_degrees (a b : List ℝ) :
    r2d FR (l2 FR (a.map (d2r FR)) (b.map (d2r FR))) = l2 FR a b := by
  have h := cartesian_radius_scale (Real.pi / 180) (by positivity) a b
  rw [show l2 FR (a.map (d2r FR)) (b.map (d2r FR)) = _ from h, mul_comm (Real.pi / 180)]
  exact (unit_roundtrip _).1

/-- **documented unit, haversine ball tree, degrees**: the user's `(lon, lat)` query and the
    grid's `(lon, lat)` element, both in degrees, reach the haversine formula as
    `(lat, lon)` radians on both sides, and the result is reported in degrees. -/
theorem doc_ball_haversine_deg (lonq latq lone late : ℝ) :
    (distances FR ⟨.ball, .spherical, .haversine, false⟩ [[lone, late]] [lonq, latq]).map
        (List.map (reportDist FR .spherical false))
      = some [r2d FR (hav FR [d2r FR latq, d2r FR lonq] [d2r FR late, d2r FR lone])] := by
  simp [distances, prepQuery, treePoint, Knn.dist, reportDist]

/-- **documented unit, spherical k-d tree, degrees**: `(lat, lon)` query in degrees ⇒ the
    planar distance of the degree pairs. -/
theorem doc_kd_spherical_deg (latq lonq lone late : ℝ) :
    (distances FR ⟨.kd, .spherical, .l2, false⟩ [[lone, late]] [latq, lonq]).map
        (List.map (reportDist FR .spherical false))
      = some [l2 FR [latq, lonq] [late, lone]] := by
  have := planar_degrees [latq, lonq] [late, lone]
  simp only [List.map_cons, List.map_nil] at this
  simp [distances, prepQuery, treePoint, Knn.dist, reportDist, this]

/-- **documented unit, Cartesian trees**: the chord, untouched. -/
theorem doc_cartesian (kind : TreeKind) (inRad : Bool) (q e : List ℝ) (hq : q.length = 3) :
    (distances FR ⟨kind, .cartesian, .l2, inRad⟩ [e] q).map
        (List.map (reportDist FR .cartesian inRad))
      = some [l2 FR q e] := by
  simp [distances, prepQuery, treePoint, Knn.dist, reportDist, hq]

/-- **documented unit, radians**: with `in_radians=True` nothing is converted, in or out. -/
theorem doc_ball_haversine_rad (lonq latq lone late : ℝ) :
    (distances FR ⟨.ball, .spherical, .haversine, true⟩ [[lone, late]] [lonq, latq]).map
        (List.map (reportDist FR .spherical true))
      = some [hav FR [latq, lonq] [d2r FR late, d2r FR lone]] := by
  simp [distances, prepQuery, treePoint, Knn.dist, reportDist]

theorem doc_kd_spherical_rad (latq lonq lone late : ℝ) :
    (distances FR ⟨.kd, .spherical, .l2, true⟩ [[lone, late]] [latq, lonq]).map
        (List.map (reportDist FR .spherical true))
      = some [l2 FR [latq, lonq] [d2r FR late, d2r FR lone]] := by
  simp [distances, prepQuery, treePoint, Knn.dist, reportDist]

/-- **radius unit (repaired k-d tree, and the ball tree)**: on a spherical tree queried in
    degrees, an element is returned iff its REPORTED distance is at most `r` -/
theorem radius_unit_repaired (kind : TreeKind) (D : List ℝ) (r : ℝ) (i : Nat) :
    i ∈ (bruteRadius leR D (radiusIn FR .repaired kind .spherical r)).map Prod.snd
      ↔ ∃ d, D[i]? = some d ∧ reportDist FR .spherical false d ≤ r := by
  have hr : radiusIn FR .repaired kind .spherical r = d2r FR r := by cases kind <;> rfl
  rw [hr, mem_radius_iff]
  simp only [reportDist, Bool.not_false, decide_true, Bool.and_self, if_true, reported_le_iff,
    leR, decide_eq_true_eq]

/-- **the spherical k-d tree as it stands** reads `r` in radians while reporting degrees: the
    single element at tree distance 1 rad (57.3°) is returned for `r = 1`. -/
theorem asis_kd_radius_unit :
    ¬ (∀ (D : List ℝ) (r : ℝ) (i : Nat),
        i ∈ (bruteRadius leR D (radiusIn FR .asIs .kd .spherical r)).map Prod.snd
          ↔ ∃ d, D[i]? = some d ∧ reportDist FR .spherical false d ≤ r) := by
  intro h
  have h1 := (h [1] 1 0).mp (by simp [bruteRadius, radiusIn, leR])
  obtain ⟨d, hd, hle⟩ := h1
  simp only [List.getElem?_cons_zero, Option.some.injEq] at hd
  subst hd
  simp only [reportDist, Bool.not_false, decide_true, Bool.and_self, if_true, r2d, FR, one_mul] at hle
  have := Real.pi_le_four
  have hp := Real.pi_pos
  rw [div_le_iff₀ hp] at hle
  linarith

end Reals

/-! ## Part C — the tree cache of `Grid.get_ball_tree` / `Grid.get_kd_tree` -/

/-- wrapper invariant: every occupied slot was built from the slot's own element kind and the
    wrapper's system / metric, the current slot is occupied, and `_n_elements` is the size of the
    CURRENT element kind -/
def TreeOK (z : Sizes) (t : TreeObj) : Prop :=
  (∀ e b, t.slot e = some b → b = ⟨e, t.sys, t.metric⟩) ∧ (t.slot t.coords).isSome = true
    ∧ t.count = z.of t.coords

theorem newTree_fields (z : Sizes) (r : Req) :
    (newTree z r).coords = r.elem ∧ (newTree z r).sys = r.sys ∧ (newTree z r).metric = r.metric
      ∧ (newTree z r).count = z.of r.elem := by
  unfold newTree
  rw [setSlot_coords, setSlot_sys, setSlot_metric, setSlot_count]
  exact ⟨rfl, rfl, rfl, rfl⟩

theorem setSlot_ok (z : Sizes) (t : TreeObj)
    (h1 : ∀ e b, t.slot e = some b → b = ⟨e, t.sys, t.metric⟩) (hn : t.count = z.of t.coords) :
    TreeOK z (t.setSlot t.coords ⟨t.coords, t.sys, t.metric⟩) := by
  refine ⟨fun e b hb => ?_, ?_, ?_⟩
  · rw [setSlot_sys, setSlot_metric]
    by_cases he : e = t.coords
    · subst he; rw [slot_setSlot_same] at hb; cases hb; rfl
    · rw [slot_setSlot_ne _ _ _ _ he] at hb; exact h1 e b hb
  · rw [setSlot_coords, slot_setSlot_same]; rfl
  · rw [setSlot_count, setSlot_coords]; exact hn

theorem newTree_ok (z : Sizes) (r : Req) : TreeOK z (newTree z r) :=
  setSlot_ok z _ (fun e b h => by cases e <;> cases h) rfl

theorem switchTo_spec (z : Sizes) (t : TreeObj) (e : Elem) (h : TreeOK z t) :
    TreeOK z (switchTo z t e) ∧ (switchTo z t e).coords = e ∧ (switchTo z t e).sys = t.sys
      ∧ (switchTo z t e).metric = t.metric := by
  obtain ⟨h1, _, _⟩ := h
  unfold switchTo
  have hslot : ∀ e', ({ t with coords := e, count := z.of e } : TreeObj).slot e' = t.slot e' :=
    fun e' => by cases e' <;> rfl
  dsimp only
  split
  · exact ⟨setSlot_ok z _ (fun e' b hb => h1 e' b (hslot e' ▸ hb)) rfl, setSlot_coords _ _ _,
      setSlot_sys _ _ _, setSlot_metric _ _ _⟩
  · rename_i hc
    refine ⟨⟨fun e' b hb => h1 e' b (hslot e' ▸ hb), ?_, rfl⟩, rfl, rfl, rfl⟩
    show (({ t with coords := e, count := z.of e } : TreeObj).slot e).isSome = true
    simp only [Bool.or_eq_true, not_or, Bool.not_eq_true, Option.isNone_eq_false_iff] at hc
    exact hc.1

theorem reflects_of_ok (z : Sizes) (r : Req) (t : TreeObj) (h : TreeOK z t) (hc : t.coords = r.elem)
    (hs : t.sys = r.sys) (hm : t.metric = r.metric) : reflects z r t = true := by
  obtain ⟨h1, h2, h3⟩ := h
  unfold reflects TreeObj.current
  obtain ⟨b, hb⟩ := Option.isSome_iff_exists.mp h2
  have := h1 _ b hb
  rw [hb, this, h3, hc, hs, hm]
  simp

theorem getFrom_repaired (z : Sizes) (cur : Option TreeObj) (r : Req)
    (h : ∀ t, cur = some t → TreeOK z t) :
    TreeOK z (getFrom z .repaired cur r) ∧ reflects z r (getFrom z .repaired cur r) = true := by
  have hnew : TreeOK z (newTree z r) ∧ reflects z r (newTree z r) = true := by
    obtain ⟨hc, hs, hm, _⟩ := newTree_fields z r
    exact ⟨newTree_ok z r, reflects_of_ok z r _ (newTree_ok z r) hc hs hm⟩
  unfold getFrom
  cases cur with
  | none => exact hnew
  | some t =>
    have ht := h t rfl
    dsimp only
    split
    · exact hnew                      -- `reconstruct=True`
    · split
      · exact hnew                    -- another system or metric is requested
      · rename_i hne
        simp only [Bool.or_eq_true, bne_iff_ne, ne_eq, not_or, Decidable.not_not,
          decide_true, Bool.true_and] at hne
        split
        · -- another element kind: the `coordinates` setter
          obtain ⟨hok, hc, hs, hm⟩ := switchTo_spec z t r.elem ht
          exact ⟨hok, reflects_of_ok z r _ hok hc (by rw [hs, hne.1]) (by rw [hm, hne.2])⟩
        · -- nothing differs: the cached wrapper
          rename_i hel
          simp only [bne_iff_ne, ne_eq, Decidable.not_not] at hel
          exact ⟨ht, reflects_of_ok z r t ht hel.symm hne.1.symm hne.2.symm⟩

def CacheOK (z : Sizes) (c : Cache) : Prop :=
  (∀ t, c.ball = some t → TreeOK z t) ∧ (∀ t, c.kd = some t → TreeOK z t)

theorem getTree_repaired (z : Sizes) (c : Cache) (r : Req) (h : CacheOK z c) :
    CacheOK z (getTree z .repaired c r).1 ∧ reflects z r (getTree z .repaired c r).2 = true := by
  unfold getTree
  cases hk : r.kind with
  | ball =>
    obtain ⟨hok, hr⟩ := getFrom_repaired z c.ball r h.1
    exact ⟨⟨fun _ ht => Option.some.inj ht ▸ hok, h.2⟩, hr⟩
  | kd =>
    obtain ⟨hok, hr⟩ := getFrom_repaired z c.kd r h.2
    exact ⟨⟨h.1, fun _ ht => Option.some.inj ht ▸ hok⟩, hr⟩

theorem runReqs_repaired (z : Sizes) (c : Cache) (rs : List Req) (h : CacheOK z c) :
    CacheOK z (runReqs z .repaired c rs).1 ∧
      ∀ p ∈ List.zip rs (runReqs z .repaired c rs).2, reflects z p.1 p.2 = true := by
  induction rs generalizing c with
  | nil => exact ⟨h, by intro p hp; cases hp⟩
  | cons r rs ih =>
    obtain ⟨hc1, hr⟩ := getTree_repaired z c r h
    obtain ⟨hc2, hall⟩ := ih (getTree z .repaired c r).1 hc1
    simp only [runReqs]
    refine ⟨hc2, ?_⟩
    intro p hp
    rw [List.zip_cons_cons] at hp
    rcases List.mem_cons.mp hp with rfl | hp
    · exact hr
    · exact hall p hp

theorem cacheOK_empty (z : Sizes) : CacheOK z Cache.empty :=
  ⟨fun t h => (by cases h), fun t h => (by cases h)⟩

/-- **the tree handed back reflects the request, after ANY history** (repaired cache), on a grid
    with ANY element counts: whatever differently parameterised trees were requested from the grid
    before, the wrapper returned for `r` has the requested element kind, coordinate system and
    metric, its queries go to an sklearn tree built from exactly those, and its `_n_elements` is
    the size of the requested kind. -/
theorem tree_reflects_request (z : Sizes) (rs : List Req) (r : Req) :
    reflects z r (getTree z .repaired (runReqs z .repaired Cache.empty rs).1 r).2 = true :=
  (getTree_repaired z _ r (runReqs_repaired z Cache.empty rs (cacheOK_empty z)).1).2

/-- the same for every intermediate hand-back of a history -/
theorem every_handback_reflects (z : Sizes) (rs : List Req) :
    ∀ p ∈ List.zip rs (runReqs z .repaired Cache.empty rs).2, reflects z p.1 p.2 = true :=
  (runReqs_repaired z Cache.empty rs (cacheOK_empty z)).2

/-- **the `k` guard after ANY history**: the wrapper handed back for request `r` accepts `k`
    iff `1 ≤ k ≤ n` of the REQUESTED element kind (not of any kind visited before). -/
theorem handback_guard (z : Sizes) (rs : List Req) (r : Req) (k : Int) :
    (getTree z .repaired (runReqs z .repaired Cache.empty rs).1 r).2.accepts k = true
      ↔ 1 ≤ k ∧ k ≤ (z.of r.elem : Int) := by
  have h := tree_reflects_request z rs r
  unfold reflects at h
  simp only [Bool.and_eq_true, beq_iff_eq] at h
  unfold TreeObj.accepts
  rw [h.2]
  simp

/-- **element-kind switches on one cached wrapper** (same tree type, system and metric, no
    `reconstruct`): after ANY walk through element kinds — A,B,A, A,B,C,A, … — the wrapper handed
    back for kind `e` routes its queries to the sklearn tree built from kind `e` and guards `k`
    with the size of kind `e`. -/
theorem kind_switch_reflects (z : Sizes) (k : TreeKind) (s : Sys) (m : Metric) (es : List Elem)
    (e : Elem) :
    reflects z ⟨k, e, s, m, false⟩
      (getTree z .repaired
        (runReqs z .repaired Cache.empty (es.map fun e' => ⟨k, e', s, m, false⟩)).1
        ⟨k, e, s, m, false⟩).2 = true :=
  tree_reflects_request z _ _

/-- non-vacuity: nodes (10) → faces (7) → nodes keeps routing to the node tree and accepts k = 10 -/
example : (getTree ⟨10, 7, 15⟩ .repaired (runReqs ⟨10, 7, 15⟩ .repaired Cache.empty
      [⟨.kd, .nodes, .spherical, .l2, false⟩, ⟨.kd, .faces, .spherical, .l2, false⟩]).1
      ⟨.kd, .nodes, .spherical, .l2, false⟩).2.current = some ⟨.nodes, .spherical, .l2⟩ := by decide +kernel
example : (getTree ⟨10, 7, 15⟩ .repaired (runReqs ⟨10, 7, 15⟩ .repaired Cache.empty
      [⟨.kd, .nodes, .spherical, .l2, false⟩, ⟨.kd, .faces, .spherical, .l2, false⟩]).1
      ⟨.kd, .nodes, .spherical, .l2, false⟩).2.accepts 10 = true := by decide +kernel
example : (getTree ⟨10, 7, 15⟩ .repaired (runReqs ⟨10, 7, 15⟩ .repaired Cache.empty
      [⟨.kd, .nodes, .spherical, .l2, false⟩]).1
      ⟨.kd, .faces, .spherical, .l2, false⟩).2.accepts 8 = false := by decide +kernel

/-- **the code as it stands** (only `coordinates` compared): a ball tree requested with Cartesian
    coordinates after the default spherical one is the spherical haversine tree. -/
theorem asis_cache_stale :
    ¬ (∀ (z : Sizes) (rs : List Req) (r : Req),
        reflects z r (getTree z .asIs (runReqs z .asIs Cache.empty rs).1 r).2 = true) := by
  intro h
  have := h ⟨3, 1, 3⟩ [⟨.ball, .nodes, .spherical, .haversine, false⟩]
    ⟨.ball, .nodes, .cartesian, .l2, false⟩
  revert this; decide

/-- what the as-is cache still guarantees: the whole request is reflected when
    `reconstruct=True` is passed -/
theorem asis_partial_reconstruct (z : Sizes) (c : Cache) (r : Req) (hr : r.recon = true) :
    reflects z r (getTree z .asIs c r).2 = true := by
  obtain ⟨hc, hs, hm, _⟩ := newTree_fields z r
  have hnew := reflects_of_ok z r _ (newTree_ok z r) hc hs hm
  unfold getTree getFrom
  cases hk : r.kind <;> dsimp only <;> split <;> simp_all

/-- reflected by the repaired cache, not by the cache as it stands -/
example : reflects ⟨10, 7, 15⟩ ⟨.kd, .faces, .spherical, .l2, false⟩
    (getTree ⟨10, 7, 15⟩ .repaired (runReqs ⟨10, 7, 15⟩ .repaired Cache.empty
      [⟨.kd, .nodes, .cartesian, .l2, false⟩, ⟨.ball, .edges, .spherical, .haversine, false⟩,
       ⟨.kd, .faces, .cartesian, .l1, true⟩]).1 ⟨.kd, .faces, .spherical, .l2, false⟩).2 = true := by
  decide +kernel
example : reflects ⟨10, 7, 15⟩ ⟨.kd, .faces, .spherical, .l2, false⟩
    (getTree ⟨10, 7, 15⟩ .asIs (runReqs ⟨10, 7, 15⟩ .asIs Cache.empty
      [⟨.kd, .nodes, .cartesian, .l2, false⟩]).1 ⟨.kd, .faces, .spherical, .l2, false⟩).2 = false := by
  decide +kernel

/-! ## Part D — ties and near-ties: every accepted answer is a valid k-nearest answer -/

section Tol
variable {K : Type} [Field K] [LinearOrder K] [IsStrictOrderedRing K]

omit [IsStrictOrderedRing K] in
theorem leO_leTol_iff (eps a b : K) :
    leO (leTol leK eps) (some a) (some b) = true ↔ a ≤ b + eps := decide_eq_true_iff

/-- the tolerant radius Boolean means: valid distinct indices, everything returned is within
    `r + eps`, everything within `r - eps` is returned -/
theorem radius_tol_sandwich (D : List K) (r eps : K) (out : List Nat)
    (h : radiusSpecTolB leK eps D r out = true) :
    (∀ j ∈ out, j ∈ (bruteRadius leK D (r + eps)).map Prod.snd) ∧
    (∀ j ∈ (bruteRadius leK D (r - eps)).map Prod.snd, j ∈ out) ∧ out.Nodup := by
  unfold radiusSpecTolB at h
  simp only [Bool.and_eq_true, List.all_eq_true, decide_eq_true_eq, List.mem_range,
    Bool.or_eq_true, List.contains_iff_mem, Bool.not_eq_eq_eq_not, Bool.not_true] at h
  obtain ⟨⟨⟨h1, h2⟩, h3⟩, h4⟩ := h
  refine ⟨?_, ?_, h2⟩
  · intro j hj
    have hjn := h1 j hj
    have hd : D[j]? = some D[j] := List.getElem?_eq_getElem hjn
    have := h3 j hj
    rw [hd] at this
    exact (mem_radius_iff leK D _ j).mpr ⟨D[j], hd, this⟩
  · intro j hj
    obtain ⟨d, hd, hle⟩ := (mem_radius_iff leK D _ j).mp hj
    refine (h4 j (List.getElem?_eq_some_iff.mp hd).1).resolve_right fun h => ?_
    rw [hd] at h
    exact of_decide_eq_false h (le_sub_iff_add_le.mp (of_decide_eq_true hle))

variable {D : List K} {k : Nat} {out : List Nat} {eps : K}

/-- under the tolerant specification the element at position `p` is, up to `eps`, at least as
    near as every element that is not listed before it -/
theorem KnnSpec.tol_le (h : KnnSpec (leTol leK eps) D k out) (heps : 0 ≤ eps) {p j : Nat}
    (hp : p < out.length) {a b : K} (ha : D[out[p]]? = some a) (hb : D[j]? = some b)
    (hnot : j ∉ out.take p) : a ≤ b + eps := by
  by_cases hjo : j ∈ out
  · obtain ⟨q, hq, hpq, rfl⟩ := exists_getElem_of_not_mem_take hjo hnot
    rcases Nat.eq_or_lt_of_le hpq with rfl | hlt
    · rw [ha] at hb; cases hb
      exact le_add_of_nonneg_right heps
    · have := List.pairwise_iff_getElem.mp h.sorted p q hp hq hlt
      rwa [ha, hb, leO_leTol_iff] at this
  · have := h.minimal _ (List.getElem_mem hp) j (List.getElem?_eq_some_iff.mp hb).1 hjo
    rwa [ha, hb, leO_leTol_iff] at this

/-- **near-ties: the accepted answer has the brute-force distance profile, up to `eps`.**
    If an index list passes the k-nearest specification up to the tolerance `eps ≥ 0` (nearest
    first and minimal up to `eps` — this is what the driver evaluates on a row with near-ties),
    then at EVERY position `p` the distance of the returned element differs from the `p`-th
    smallest distance (the brute-force answer) by at most `eps`. -/
theorem knn_tol_profile (D : List K) (k : Nat) (out : List Nat) (eps : K) (heps : 0 ≤ eps)
    (h : KnnSpec (leTol leK eps) D k out) (p : Nat) (hp : p < out.length) :
    ∃ a si, D[out[p]]? = some a ∧ (bruteKnn leK D k)[p]? = some si ∧
      a ≤ si.1 + eps ∧ si.1 ≤ a + eps := by
  obtain ⟨hpk, hpD⟩ : p < k ∧ p < D.length := Nat.lt_min.mp (h.len ▸ hp)
  have hpS : p < (sortBy leK D.zipIdx).length := by
    rw [(sortBy_perm leK _).length_eq, List.length_zipIdx]; exact hpD
  have hsorted := sortBy_sorted leK_total leK_trans D.zipIdx
  have hop : out[p] < D.length := h.range _ (List.getElem_mem hp)
  have ha : D[out[p]]? = some D[out[p]] := List.getElem?_eq_getElem hop
  refine ⟨_, (sortBy leK D.zipIdx)[p], ha, ?_, ?_, ?_⟩
  · rw [bruteKnn, List.getElem?_take_of_lt hpk]
    exact List.getElem?_eq_getElem hpS
  · -- one of the `p + 1` nearest is not listed before position `p`; it bounds `out[p]`
    obtain ⟨j, hjP, hjo⟩ := exists_mem_not_mem_of_length_lt (bruteKnn_nodup leK D (p + 1))
      (B := out.take p) (by rw [List.length_map, bruteKnn_length, List.length_take]; omega)
    obtain ⟨x, hx, rfl⟩ := List.mem_map.mp hjP
    obtain ⟨i, hi, rfl⟩ := List.mem_take_iff_getElem.mp hx
    have hxs := of_decide_eq_true
      (le_of_sorted leK_total hsorted (Nat.le_of_lt_succ (Nat.lt_min.mp hi).1) hpS)
    exact le_trans (h.tol_le heps hp ha (bruteKnn_mem leK D _ _ hx) hjo)
      (add_le_add_left hxs eps)
  · -- one of `out[0..p]` is not among the `p` nearest; `out[p]` bounds it
    obtain ⟨j, hjo, hjP⟩ := exists_mem_not_mem_of_length_lt
      (h.nodup.sublist (List.take_sublist (p + 1) out)) (B := (bruteKnn leK D p).map Prod.snd)
      (by rw [List.length_map, bruteKnn_length, List.length_take]; omega)
    obtain ⟨q, hq, rfl⟩ := List.mem_take_iff_getElem.mp hjo
    obtain ⟨hqp, hq'⟩ : q < p + 1 ∧ q < out.length := Nat.lt_min.mp hq
    have hoq : out[q] < D.length := h.range _ (List.getElem_mem hq')
    have hb : D[out[q]]? = some D[out[q]] := List.getElem?_eq_getElem hoq
    have h1 := of_decide_eq_true (sortBy_getElem_le_of_not_mem leK_total leK_trans (Nat.le_refl p) hpS hb hjP)
    refine le_trans h1 ?_
    rcases Nat.eq_or_lt_of_le (Nat.le_of_lt_succ hqp) with rfl | hlt
    · exact le_add_of_nonneg_right heps
    · have := List.pairwise_iff_getElem.mp h.sorted q p hq' hp hlt
      rwa [hb, ha, leO_leTol_iff] at this

omit [IsStrictOrderedRing K] in
theorem leTol_zero : leTol (leK (K := K)) 0 = leK := by
  funext a b; simp [leTol]

/-- **exact ties: every accepted answer is a valid k-nearest answer.**  Whatever ties the
    distance list has, an index list that passes the (exact) specification returns, position by
    position, exactly the distances of the brute-force answer — it differs from brute force only
    in WHICH of several equidistant elements it names. -/
theorem knn_ties_profile (D : List K) (k : Nat) (out : List Nat) (h : KnnSpec leK D k out)
    (p : Nat) (hp : p < out.length) :
    ∃ si, (bruteKnn leK D k)[p]? = some si ∧ D[out[p]]? = some si.1 := by
  have h0 : KnnSpec (leTol leK (0 : K)) D k out := by rw [leTol_zero]; exact h
  obtain ⟨a, si, ha, hs, h1, h2⟩ := knn_tol_profile D k out 0 (le_refl _) h0 p hp
  rw [add_zero] at h1 h2
  exact ⟨si, hs, by rw [ha, le_antisymm h1 h2]⟩

end Tol

section Ties
variable {K : Type} [LinearOrder K]

/-- **and conversely every valid tie-breaking is accepted**: a list of distinct valid indices
    whose distances are, position by position, those of the brute-force answer passes the
    specification — so `KnnSpec` accepts EXACTLY the valid k-nearest answers, whatever the ties. -/
theorem knn_spec_of_profile (D : List K) (k : Nat) (out : List Nat) (hnd : out.Nodup)
    (hr : ∀ i ∈ out, i < D.length)
    (hprof : out.map (fun i => D[i]?) = (bruteKnn leK D k).map (fun q => some q.1)) :
    KnnSpec leK D k out := by
  have hlen : out.length = (bruteKnn leK D k).length := by
    simpa only [List.length_map] using congrArg List.length hprof
  have hget : ∀ p (hp : p < out.length) (hp' : p < (bruteKnn leK D k).length),
      D[out[p]]? = some ((bruteKnn leK D k)[p]).1 := by
    intro p hp hp'
    have := List.getElem_of_eq hprof (by rwa [List.length_map])
    rwa [List.getElem_map, List.getElem_map] at this
  refine ⟨by rw [hlen, bruteKnn_length], hr, hnd, ?_, ?_⟩
  · rw [List.pairwise_iff_getElem]
    intro i j hi hj hij
    rw [hget i hi (hlen ▸ hi), hget j hj (hlen ▸ hj)]
    exact List.pairwise_iff_getElem.mp (bruteKnn_sorted leK_total leK_trans D k) i j _ _ hij
  · intro i hi j hj hjo
    obtain ⟨pi, hpi, rfl⟩ := List.mem_iff_getElem.mp hi
    -- As multisets, the distances of all indices are those of the whole sorted list, and the
    -- distances of `out` are those of its first `k` entries: so the distances of the indices
    -- outside `out` are those of the entries beyond the first `k`, none of which is smaller.
    let f : Nat → Option K := fun i => D[i]?
    have hsplit : (out ++ (List.range D.length).diff out).Perm (List.range D.length) :=
      List.subperm_append_diff_self_of_count_le (List.subperm_ext_iff.mp
        (List.subperm_of_subset hnd fun a ha => List.mem_range.mpr (hr a ha)))
    have hall : ((sortBy leK D.zipIdx).map (fun q => some q.1)).Perm
        ((List.range D.length).map f) := by
      refine ((sortBy_perm leK D.zipIdx).map _).trans (List.Perm.of_eq ?_)
      rw [List.range_eq_range', ← List.zipIdx_map_snd 0 D, List.map_map]
      exact List.map_congr_left fun q hq => (List.mem_zipIdx_iff_getElem?.mp hq).symm
    have hperm : (out.map f ++ ((List.range D.length).diff out).map f).Perm
        ((bruteKnn leK D k).map (fun q => some q.1)
          ++ ((sortBy leK D.zipIdx).drop k).map (fun q => some q.1)) := by
      rw [← List.map_append, ← List.map_append, bruteKnn, List.take_append_drop]
      exact (hsplit.map f).trans hall.symm
    rw [show out.map f = (bruteKnn leK D k).map (fun q => some q.1) from hprof] at hperm
    obtain ⟨y, hy, hyj⟩ := List.mem_map.mp (((List.perm_append_left_iff _).mp hperm).mem_iff.mp
      (List.mem_map.mpr ⟨j, List.mem_diff_of_mem (List.mem_range.mpr hj) hjo, rfl⟩))
    have hs := sortBy_sorted leK_total leK_trans D.zipIdx
    rw [← List.take_append_drop k (sortBy leK D.zipIdx)] at hs
    have hpk : pi < (bruteKnn leK D k).length := hlen ▸ hpi
    rw [hget pi hpi hpk, show D[j]? = some y.1 from hyj.symm]
    exact (List.pairwise_append.mp hs).2.2 _ (List.getElem_mem hpk) y hy

end Ties

/-! non-vacuity: ties are accepted in either order; a near-tie passes the tolerant spec but not
    the exact one (Booleans at `Int`; the hypothesis of `knn_tol_profile` at ℚ) -/
example : knnSpecB leI [5, 1, 4, 1, 9] 3 [3, 1, 2] = true := by decide +kernel
example : knnSpecB (leTol leI 10) [500, 100, 401, 400, 900] 2 [1, 2] = true := by decide +kernel
example : knnSpecB leI [500, 100, 401, 400, 900] 2 [1, 2] = false := by decide +kernel
example : knnSpecB (leTol leI 10) [500, 100, 401, 400, 900] 2 [1, 0] = false := by decide +kernel
example : radiusSpecTolB leI 10 [500, 100, 401, 400, 900] 400 [1, 3] = true := by decide +kernel
example : radiusSpecTolB leI 10 [500, 100, 401, 400, 900] 400 [1, 2, 3] = true := by decide +kernel
example : radiusSpecTolB leI 10 [500, 100, 401, 400, 900] 400 [1] = true := by decide +kernel
example : radiusSpecTolB leI 10 [500, 100, 401, 400, 900] 400 [3] = false := by decide +kernel
example : radiusSpecTolB leI 10 [500, 100, 401, 400, 900] 400 [1, 0] = false := by decide +kernel
example : [3, 1, 2].map (fun i => ([5, 1, 4, 1, 9] : List ℚ)[i]?)
    = (bruteKnn leK ([5, 1, 4, 1, 9] : List ℚ) 3).map (fun q => some q.1) := by decide +kernel
example : KnnSpec (leTol (leK (K := ℚ)) 10) [500, 100, 401, 400, 900] 2 [1, 2] :=
  (knnSpecB_iff _ _ _ _).mp (by decide +kernel)

end UxVerif.C11
