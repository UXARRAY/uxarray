/-
  C03 — Incidence tables are exact transposes of one another.

  Theorems about the models of `_build_edge_face_connectivity`, `_build_node_faces_connectivity`,
  `_build_face_face_connectivity` and `_construct_hole_edge_indices` for EVERY face-node /
  face-edge table meeting the decidable precondition `Incidence.Pre` (valid entries, every edge
  in one or two faces), of any size, padding layout and numbering: `build_meets_spec`; C02 → C03
  (`pipeline_meets_spec`); the driver's fast decision procedure of `Lemmas/C03Fast.lean` equals the
  specification's own Booleans (`preFast_eq`, `specFast_eq_spec`, `failingFast_eq`), so meshes of
  any size are judged by `Incidence.Spec` itself; sub-meshes (`sub_meets_spec`); the tables are
  rectangular (`faceFace_rectangular`); the order inside the rows (`edgeFace_row_ordered`, …).
-/
import UxVerif.Lemmas.Keyed
import UxVerif.Props.C02
import UxVerif.Lemmas.Pipeline
import UxVerif.Lemmas.Incidence
import UxVerif.Lemmas.C03Transport
import UxVerif.Lemmas.C03Fast

namespace UxVerif.C03
open UxVerif UxVerif.Incidence

/-! ### node_face_connectivity -/

/-- **face `f` is listed in `node_face_connectivity[v]` iff `v` is a corner of `f`** -/
theorem nodeFace_ok {n : Nat} {t : Table}
    (h0 : ∀ f, f < t.length → ∀ y ∈ real (rowAt t f), 0 ≤ y) : NodeFaceOK n t (nodeFace n t) := by
  refine ⟨by rw [nodeFace, List.length_map, nodeFaceLists, appendFold_length], ?_, ?_⟩
  · intro v hv f hf
    rw [nodeFace_row n t v hv, mem_padTo_ofNat, feed_nfEvents]
    exact ofNat_mem_fedFaces_rows h0 v hf
  · intro r hr x hx
    obtain ⟨v, _, rfl⟩ := mem_map_appendFold hr
    refine (mem_padTo _ _ _ hx).imp_right fun hx => ?_
    rw [feed_nfEvents] at hx
    obtain ⟨f, hf, _, rfl⟩ := mem_fedFaces.mp hx
    exact ⟨Int.natCast_nonneg f, Int.ofNat_lt.mpr hf⟩

/-! ### edge_face_connectivity -/

/-- the per-edge clause of `EdgeFaceOK` -/
def EdgeRowOK (FE : Table) (N : List Nat) (e : Nat) (p : Int × Int) : Prop :=
  p.1 ≠ FILL ∧ (p.2 = FILL ↔ incidence FE N e = 1) ∧
  (∀ x ∈ [p.1, p.2], x = FILL ∨ (0 ≤ x ∧ x < FE.length)) ∧
  ∀ f, f < FE.length →
    ((Int.ofNat f = p.1 ∨ Int.ofNat f = p.2) ↔ Int.ofNat e ∈ faceEdgesOf FE N f)

theorem edgeFaceOK_iff_rows (FE : Table) (N : List Nat) (nEdge : Nat) (EF : List (Int × Int)) :
    EdgeFaceOK FE N nEdge EF ↔
      EF.length = nEdge ∧ ∀ e, e < nEdge → EdgeRowOK FE N e (EF.getD e (FILL, FILL)) := Iff.rfl

/-- normal form: a boundary edge holds its face and padding, an interior edge its two faces -/
theorem EdgeRowOK.cases {FE : Table} {N : List Nat} {e : Nat} {p : Int × Int}
    (h : EdgeRowOK FE N e p) :
    ∃ fa, fa < FE.length ∧
      ((p = (Int.ofNat fa, FILL) ∧ incidence FE N e = 1 ∧
          ∀ f, f < FE.length → (f = fa ↔ Int.ofNat e ∈ faceEdgesOf FE N f)) ∨
       ∃ fb, fb < FE.length ∧ p = (Int.ofNat fa, Int.ofNat fb) ∧ incidence FE N e ≠ 1 ∧
          ∀ f, f < FE.length → ((f = fa ∨ f = fb) ↔ Int.ofNat e ∈ faceEdgesOf FE N f)) := by
  obtain ⟨a, b⟩ := p
  obtain ⟨ha, hb, hent, hiff⟩ := h
  simp only at ha hb hent hiff
  obtain ⟨fa, hfa, rfl⟩ : ∃ fa, fa < FE.length ∧ a = Int.ofNat fa :=
    (hent _ List.mem_cons_self).elim (fun h => absurd h ha) (fun h => exists_ofNat_of_bounds h.1 h.2)
  refine ⟨fa, hfa, ?_⟩
  have inj : ∀ f g : Nat, Int.ofNat f = Int.ofNat g ↔ f = g := fun f g => ⟨Int.ofNat.inj, congrArg _⟩
  by_cases hbF : b = FILL
  · subst hbF
    refine Or.inl ⟨rfl, hb.mp rfl, fun f hf => ?_⟩
    rw [← hiff f hf, inj]
    exact ⟨Or.inl, fun h => h.elim id (fun h => absurd h (ofNat_ne_fill f))⟩
  · obtain ⟨fb, hfb, rfl⟩ : ∃ fb, fb < FE.length ∧ b = Int.ofNat fb :=
      (hent _ (List.mem_cons_of_mem _ List.mem_cons_self)).elim (fun h => absurd h hbF)
        (fun h => exists_ofNat_of_bounds h.1 h.2)
    refine Or.inr ⟨fb, hfb, rfl, fun h => hbF (hb.mpr h), fun f hf => ?_⟩
    rw [← hiff f hf, inj, inj]

/-- **face `f` is listed in `edge_face_connectivity[e]` iff `e` is one of `f`'s edges; a
    boundary edge is one face followed by padding, an interior edge two faces** -/
theorem edgeFace_ok {n : Nat} {t FE : Table} {N : List Nat} {nEdge : Nat}
    (h : Pre n t FE N nEdge) : EdgeFaceOK FE N nEdge (edgeFace FE N nEdge) := by
  refine ⟨edgeFace_length FE N nEdge, fun e he => ?_⟩
  have hmem := mem_feed_ef h.nonneg e
  have hiff : ∀ f, f < FE.length → _ := fun f hf => ofNat_mem_feed_ef h.nonneg e hf
  have valid : ∀ x ∈ feed (efEvents FE N) e, x = FILL ∨ (0 ≤ x ∧ x < FE.length) := by
    intro x hx
    obtain ⟨f, hf, rfl, _⟩ := (hmem x).mp hx
    exact Or.inr ⟨Int.natCast_nonneg f, Int.ofNat_lt.mpr hf⟩
  unfold incidence
  rcases edgeFace_cases h.nonneg he (h.manifold he) with ⟨fa, hl, hrow⟩ | ⟨fa, fb, _, hl, hrow⟩
  · simp only [hrow]
    rw [hl] at hiff valid ⊢
    refine ⟨ofNat_ne_fill fa, by simp, ?_, fun f hf => ?_⟩
    · intro x hx
      rcases List.mem_pair.mp hx with rfl | rfl
      · exact valid _ List.mem_cons_self
      · exact Or.inl rfl
    · rw [← hiff f hf, List.mem_singleton]
      exact ⟨fun h => h.elim id (fun h => absurd h (ofNat_ne_fill f)), Or.inl⟩
  · simp only [hrow]
    rw [hl] at hiff valid ⊢
    refine ⟨ofNat_ne_fill fa, iff_of_false (ofNat_ne_fill fb) (by simp), valid, fun f hf => ?_⟩
    rw [← hiff f hf, List.mem_pair]

/-! ### hole_edge_indices -/

/-- **hole edges are exactly the edges with a single adjacent face** (for any edge-face table
    meeting `EdgeFaceOK`, in particular the model's) -/
theorem holes_ok {FE : Table} {N : List Nat} {nEdge : Nat} {EF : List (Int × Int)}
    (h : EdgeFaceOK FE N nEdge EF) : HolesOK FE N nEdge (holeEdges EF) := by
  obtain ⟨hlen, hrows⟩ := h
  refine ⟨?_, ?_, ?_⟩
  · unfold holeEdges; exact List.Pairwise.filter _ List.nodup_range
  · intro e he
    unfold holeEdges at he
    simp only [List.mem_filter, List.mem_range] at he
    omega
  · intro e he
    have := (hrows e he).2.1
    unfold holeEdges
    simp only [List.mem_filter, List.mem_range, beq_iff_eq, hlen, he, true_and]
    have hd : EF.getD e (0, 0) = EF.getD e (FILL, FILL) := by
      simp [List.getD, List.getElem?_eq_getElem (hlen ▸ he : e < EF.length)]
    rw [hd]; exact this

/-! ### face_face_connectivity: once per shared edge -/

theorem count_pair_events (fa fb f g : Nat) (hfg : f ≠ g) :
    List.count (f, Int.ofNat g) [(fa, Int.ofNat fb), (fb, Int.ofNat fa)]
      = if (f = fa ∨ f = fb) ∧ (g = fa ∨ g = fb) then 1 else 0 := by
  have hgf : g ≠ f := Ne.symm hfg
  simp only [List.count_cons, List.count_nil, beq_iff_eq, Prod.mk.injEq, Int.ofNat_eq_natCast,
    Int.natCast_inj]
  -- which of the two faces is `f`: then the event counts iff `g` is the other one
  by_cases h1 : fa = f
  · subst h1
    by_cases h2 : fb = g
    · subst h2; simp [hfg, hgf]
    · simp [h2, hfg, hgf, Ne.symm h2]
  · by_cases h3 : fb = f
    · subst h3
      by_cases h4 : fa = g
      · subst h4; simp [hfg, hgf]
      · simp [h4, h1, hfg, hgf, Ne.symm h4]
    · simp [h1, h3, Ne.symm h1, Ne.symm h3]

/-- the contribution of one edge-face row to `count g face_face[f]` -/
theorem ffEventsOf_count {FE : Table} {N : List Nat} {nEdge : Nat} {EF : List (Int × Int)}
    (h : EdgeFaceOK FE N nEdge EF) (e : Nat) (he : e < nEdge)
    (f g : Nat) (hf : f < FE.length) (hg : g < FE.length) (hfg : f ≠ g) :
    (ffEventsOf (EF.getD e (FILL, FILL))).count (f, Int.ofNat g)
      = if (decide (Int.ofNat e ∈ faceEdgesOf FE N f) && decide (Int.ofNat e ∈ faceEdgesOf FE N g))
        then 1 else 0 := by
  simp only [Bool.and_eq_true, decide_eq_true_eq]
  obtain ⟨fa, _, ⟨hp, _, hiff⟩ | ⟨fb, _, hp, _, hiff⟩⟩ := EdgeRowOK.cases (h.2 e he)
  · simp only [hp, ffEventsOf_fill, ← hiff f hf, ← hiff g hg]
    rw [if_neg]
    · rfl
    · rintro ⟨rfl, rfl⟩; exact hfg rfl
  · simp only [hp, ffEventsOf_ofNat, ← hiff f hf, ← hiff g hg]
    exact count_pair_events fa fb f g hfg

/-- **`face_face_connectivity[f]` contains each neighbour once per shared edge**, for any
    edge-face table meeting `EdgeFaceOK`. -/
theorem faceFace_count_ok {FE : Table} {N : List Nat} {nEdge : Nat} {EF : List (Int × Int)}
    (w : Nat) (h : EdgeFaceOK FE N nEdge EF) :
    FaceFaceCountOK FE N nEdge (faceFace FE.length w EF) := by
  intro f hf g hg hfg
  rw [faceFace_row _ _ _ f hf, count_padTo_ofNat, count_feed, ffEvents_eq, List.count_flatMap,
    filter_length_sum, h.1]
  congr 1
  apply List.map_congr_left
  intro e he
  exact ffEventsOf_count h e (List.mem_range.mp he) f g hf hg hfg

theorem mem_iff_shares_of_count {FE : Table} {N : List Nat} {nEdge : Nat} {FF : Table}
    (hc : FaceFaceCountOK FE N nEdge FF) {f g : Nat} (hf : f < FE.length) (hg : g < FE.length)
    (hfg : f ≠ g) : Int.ofNat g ∈ rowAt FF f ↔ Shares FE N nEdge f g := by
  rw [← List.count_pos_iff, hc f hf g hg hfg, List.length_pos_iff_exists_mem]
  simp only [List.mem_filter, Bool.and_eq_true, decide_eq_true_eq, Shares]

/-- **`face_face_connectivity[f]` lists exactly the faces that share an edge with `f`**,
    for any edge-face table meeting `EdgeFaceOK`. -/
theorem faceFace_mem_ok {FE : Table} {N : List Nat} {nEdge : Nat} {EF : List (Int × Int)}
    (w : Nat) (h : EdgeFaceOK FE N nEdge EF) :
    FaceFaceMemOK FE N nEdge (faceFace FE.length w EF) := by
  refine ⟨by rw [faceFace, List.length_map, faceFaceLists, appendFold_length], ?_,
    fun f hf g hg hfg => mem_iff_shares_of_count (faceFace_count_ok w h) hf hg hfg⟩
  intro r hr x hx
  obtain ⟨f, _, rfl⟩ := mem_map_appendFold hr
  refine (mem_padTo _ _ _ hx).imp_right fun hx => ?_
  -- `x` is the other face of some interior edge
  rw [mem_feed, ffEvents, List.mem_flatMap] at hx
  obtain ⟨p, hp, hx⟩ := hx
  obtain ⟨e, he, rfl⟩ := List.getElem_of_mem hp
  have hrow := h.2 e (h.1 ▸ he)
  rw [List.getD_eq_getElem?_getD, List.getElem?_eq_getElem he, Option.getD_some] at hrow
  obtain ⟨fa, hfa, ⟨hp, _⟩ | ⟨fb, hfb, hp, _⟩⟩ := EdgeRowOK.cases hrow
  · rw [hp, ffEventsOf_fill] at hx; cases hx
  · rw [hp, ffEventsOf_ofNat] at hx
    rcases List.mem_pair.mp hx with hx | hx
    · rw [(Prod.mk.inj hx).2]; exact ⟨Int.natCast_nonneg fb, Int.ofNat_lt.mpr hfb⟩
    · rw [(Prod.mk.inj hx).2]; exact ⟨Int.natCast_nonneg fa, Int.ofNat_lt.mpr hfa⟩

/-- **C03 (main theorem).**  For every input meeting `Pre` — any number of faces, any size
    mix, numbering and coverage, isolated faces, nodes of any valence — the modelled builders
    satisfy the full specification. -/
theorem build_meets_spec {n w : Nat} {t FE : Table} {N : List Nat} {nEdge : Nat}
    (h : Pre n t FE N nEdge) : Spec n t FE N nEdge (build n w t FE N nEdge) := by
  have hef := edgeFace_ok h
  refine ⟨nodeFace_ok fun f hf y hy => (h.nodes f hf y hy).1, hef, ?_, ?_, holes_ok hef⟩
  · exact (h.1 ▸ faceFace_mem_ok w hef : FaceFaceMemOK FE N nEdge (faceFace t.length w _))
  · exact (h.1 ▸ faceFace_count_ok w hef : FaceFaceCountOK FE N nEdge (faceFace t.length w _))

/-- **C03 (main theorem, membership form).**  For every input meeting `Pre`, the modelled
    builders produce mutually exact incidence tables. -/
theorem build_meets_spec_partial {n w : Nat} {t FE : Table} {N : List Nat} {nEdge : Nat}
    (h : Pre n t FE N nEdge) :
    let o := build n w t FE N nEdge
    NodeFaceOK n t o.nodeFace ∧ EdgeFaceOK FE N nEdge o.edgeFace ∧
    FaceFaceMemOK FE N nEdge o.faceFace ∧ HolesOK FE N nEdge o.holes :=
  have s := build_meets_spec (w := w) h
  ⟨s.1, s.2.1, s.2.2.1, s.2.2.2.2⟩

/-! ### non-vacuity: two triangles sharing an edge, one isolated triangle -/
example : Pre 7 [[0, 1, 2], [2, 1, 3], [4, 5, 6]]
    [[0, 1, 2], [1, 3, 4], [5, 6, 7]] [3, 3, 3] 8 := by decide +kernel
example : Spec 7 [[0, 1, 2], [2, 1, 3], [4, 5, 6]] [[0, 1, 2], [1, 3, 4], [5, 6, 7]] [3, 3, 3] 8
    (build 7 3 [[0, 1, 2], [2, 1, 3], [4, 5, 6]] [[0, 1, 2], [1, 3, 4], [5, 6, 7]] [3, 3, 3] 8) :=
  build_meets_spec (by decide +kernel)

/-! ### C02 → C03: the precondition is met by the edge tables C02's model derives -/

/-- **pipeline precondition**: for EVERY standard-form face table the face-edge table, corner
    counts and edge count derived by the C02 model meet `Pre`, provided the mesh is manifold
    (no edge bounds more than two face slots) — the only clause that is about the mesh and not
    about the code. -/
theorem pre_of_edges_build {n w : Nat} {t : Table} (h : Edges.StdForm n w t)
    (hman : ∀ e, e < (Edges.edges t).length →
      incidence (Edges.faceEdges t) (Edges.nNodesPerFace t) e ≤ 2) :
    Pre n t (Edges.faceEdges t) (Edges.nNodesPerFace t) (Edges.edges t).length :=
  Pipeline.pre_of_spec h (Edges.build t) (C02.build_meets_spec h) hman

/-- **C02 ∘ C03 end to end**: on every manifold standard-form face table, the incidence tables
    built from the edge tables that the C02 model derives satisfy the C03 specification. -/
theorem pipeline_meets_spec {n w : Nat} {t : Table} (h : Edges.StdForm n w t)
    (hman : ∀ e, e < (Edges.edges t).length →
      incidence (Edges.faceEdges t) (Edges.nNodesPerFace t) e ≤ 2) :
    Spec n t (Edges.faceEdges t) (Edges.nNodesPerFace t) (Edges.edges t).length
      (build n w t (Edges.faceEdges t) (Edges.nNodesPerFace t) (Edges.edges t).length) :=
  build_meets_spec (pre_of_edges_build h hman)

/-- non-vacuity: two triangles sharing an edge and an isolated triangle are manifold -/
example : ∀ e, e < (Edges.edges [[0, 1, 2], [2, 1, 3], [4, 5, 6]]).length →
    incidence (Edges.faceEdges [[0, 1, 2], [2, 1, 3], [4, 5, 6]])
      (Edges.nNodesPerFace [[0, 1, 2], [2, 1, 3], [4, 5, 6]]) e ≤ 2 := by decide +kernel

/-- the specification is not trivially true: a face-face row listing a non-neighbour fails -/
example : ¬ FaceFaceMemOK [[0, 1, 2], [1, 3, 4], [5, 6, 7]] [3, 3, 3] 8
    [[1, FILL, FILL], [0, FILL, FILL], [0, FILL, FILL]] := by decide +kernel

/-! ### the fast decision procedures equal the specification's own Booleans -/

theorem foldl_succ {α : Type} (l : List α) (c : Nat) : l.foldl (fun c _ => c + 1) c = c + l.length := by
  induction l generalizing c with
  | nil => rfl
  | cons a l ih => rw [List.foldl_cons, ih, List.length_cons]; omega

theorem incCounts_length (FE : Table) (N : List Nat) (nEdge : Nat) :
    (incCounts FE N nEdge).length = nEdge :=
  keyedFold_replicate_length _ _ _ _

/-- one pass computes every edge's incidence -/
theorem incCounts_get (FE : Table) (N : List Nat) (nEdge e : Nat) (he : e < nEdge) :
    (incCounts FE N nEdge)[e]? = some (incidence FE N e) := by
  rw [incCounts, keyedFold_replicate_get _ _ _ _ _ he, foldl_succ, Nat.zero_add]
  rfl

theorem incCounts_all (FE : Table) (N : List Nat) (nEdge : Nat) (P : Nat → Prop) :
    (∀ c ∈ incCounts FE N nEdge, P c) ↔ ∀ e, e < nEdge → P (incidence FE N e) := by
  have get : ∀ e (he : e < (incCounts FE N nEdge).length),
      (incCounts FE N nEdge)[e] = incidence FE N e := fun e he =>
    Option.some.inj ((List.getElem?_eq_getElem he).symm.trans
      (incCounts_get FE N nEdge e (incCounts_length FE N nEdge ▸ he)))
  constructor
  · intro h e he
    have hl : e < (incCounts FE N nEdge).length := by rw [incCounts_length]; exact he
    exact get e hl ▸ h _ (List.getElem_mem hl)
  · intro h c hc
    obtain ⟨e, he, rfl⟩ := List.getElem_of_mem hc
    exact get e he ▸ h e (incCounts_length FE N nEdge ▸ he)

/-- **`preFast` decides `Pre`** (no hypothesis) -/
theorem preFast_eq (n : Nat) (t FE : Table) (N : List Nat) (nEdge : Nat) :
    preFast n t FE N nEdge = decide (Pre n t FE N nEdge) := by
  rw [Bool.eq_iff_iff, decide_eq_true_iff]
  unfold preFast Pre
  simp only [Bool.and_eq_true, decide_eq_true_eq, List.all_eq_true]
  rw [incCounts_all FE N nEdge (fun c => 1 ≤ c ∧ c ≤ 2)]
  exact ⟨fun ⟨⟨⟨a, b⟩, c⟩, d⟩ => ⟨a, b, c, d⟩, fun ⟨a, b, c, d⟩ => ⟨⟨⟨a, b⟩, c⟩, d⟩⟩

theorem validFace_iff (nFace : Nat) (x : Int) : validFace nFace x = true ↔ 0 ≤ x ∧ x < nFace := by
  simp [validFace]

theorem validFace_ofNat {nFace f : Nat} (h : f < nFace) : validFace nFace (Int.ofNat f) = true := by
  rw [validFace_iff]; exact ⟨Int.natCast_nonneg f, Int.ofNat_lt.mpr h⟩

/-! #### node_face -/

theorem nodeRowOK_iff (nFace : Nat) (r mr : List Int)
    (hmr : ∀ y ∈ mr, y = FILL ∨ (0 ≤ y ∧ y < nFace)) :
    nodeRowOK nFace r mr = true ↔
      (∀ x ∈ r, x = FILL ∨ (0 ≤ x ∧ x < nFace)) ∧
      ∀ f, f < nFace → (Int.ofNat f ∈ r ↔ Int.ofNat f ∈ mr) := by
  unfold nodeRowOK
  simp only [Bool.and_eq_true, List.all_eq_true, Bool.or_eq_true, beq_iff_eq, validFace_iff,
    List.contains_iff_mem]
  constructor
  · rintro ⟨h1, h2⟩
    refine ⟨fun x hx => (h1 x hx).imp_right And.left, fun f hf => ⟨fun hm => ?_, fun hm => ?_⟩⟩
    · exact ((h1 _ hm).resolve_left (ofNat_ne_fill f)).2
    · exact (h2 _ hm).resolve_left (ofNat_ne_fill f)
  · rintro ⟨h1, h2⟩
    refine ⟨fun x hx => ?_, fun y hy => ?_⟩
    · refine (h1 x hx).imp_right fun h => ?_
      obtain ⟨f, hf, rfl⟩ := exists_ofNat_of_bounds h.1 h.2
      exact ⟨h, (h2 f hf).mp hx⟩
    · refine (hmr y hy).imp_right fun h => ?_
      obtain ⟨f, hf, rfl⟩ := exists_ofNat_of_bounds h.1 h.2
      exact (h2 f hf).mpr hy

theorem forall_rows_iff {T : Table} {k : Nat} (hl : T.length = k) (P : List Int → Prop) :
    (∀ r ∈ T, P r) ↔ ∀ i, i < k → P (rowAt T i) := by
  constructor
  · intro h i hi; exact h _ (rowAt_mem (by omega))
  · intro h r hr
    obtain ⟨i, hi, rfl⟩ := List.getElem_of_mem hr
    exact rowAt_getElem T i hi ▸ h i (by omega)

/-- **node_face clause**: comparing with the builder's table row by row decides `NodeFaceOK` -/
theorem nodeFaceFast_eq {n : Nat} {t : Table}
    (h0 : ∀ f, f < t.length → ∀ y ∈ real (rowAt t f), 0 ≤ y) (NF : Table) :
    nodeFaceFast n t.length (nodeFace n t) NF = decide (NodeFaceOK n t NF) := by
  obtain ⟨hMlen, hMiff, hMent⟩ := nodeFace_ok (n := n) h0
  rw [Bool.eq_iff_iff, decide_eq_true_iff]
  unfold nodeFaceFast NodeFaceOK
  simp only [Bool.and_eq_true, beq_iff_eq, List.all_eq_true, List.mem_range]
  constructor
  · rintro ⟨hl, hrows⟩
    have hr : ∀ v, v < n → _ := fun v hv =>
      (nodeRowOK_iff t.length (rowAt NF v) (rowAt (nodeFace n t) v)
        (hMent _ (rowAt_mem (by omega)))).mp (hrows v hv)
    refine ⟨hl, fun v hv f hf => ?_, ?_⟩
    · rw [(hr v hv).2 f hf]; exact hMiff v hv f hf
    · rw [forall_rows_iff hl]; exact fun v hv => (hr v hv).1
  · rintro ⟨hl, hiff, hent⟩
    refine ⟨hl, fun v hv => ?_⟩
    rw [nodeRowOK_iff _ _ _ (hMent _ (rowAt_mem (by omega)))]
    refine ⟨(forall_rows_iff hl _).mp hent v hv, fun f hf => ?_⟩
    rw [hiff v hv f hf]; exact (hMiff v hv f hf).symm

/-! #### edge_face -/

theorem pairOK_self (m : Int × Int) : pairOK m m = true := by simp [pairOK]

theorem pairOK_swap (a b : Int) (hb : b ≠ FILL) : pairOK (b, a) (a, b) = true := by
  simp [pairOK, hb]

/-- given a row that meets the clause, another row meets it iff it is the same row or, for an
    interior edge, the same two faces in the other order -/
theorem pairOK_iff {FE : Table} {N : List Nat} {e : Nat} {m : Int × Int}
    (hm : EdgeRowOK FE N e m) (p : Int × Int) :
    pairOK p m = true ↔ EdgeRowOK FE N e p := by
  constructor
  · obtain ⟨a, b⟩ := m
    obtain ⟨p1, p2⟩ := p
    obtain ⟨ha, hb, hent, hiff⟩ := hm
    unfold pairOK
    simp only [Bool.or_eq_true, Bool.and_eq_true, beq_iff_eq, bne_iff_ne, ne_eq, Prod.mk.injEq]
    rintro (⟨rfl, rfl⟩ | ⟨hbf, rfl, rfl⟩)
    · exact ⟨ha, hb, hent, hiff⟩
    · refine ⟨hbf, iff_of_false ha (fun h => hbf (hb.mpr h)), ?_, fun f hf => ?_⟩
      · intro x hx
        exact hent x (List.mem_pair.mpr (List.mem_pair.mp hx).symm)
      · rw [← hiff f hf]; exact Or.comm
  · -- both rows in normal form; the faces having the edge are the same
    intro hp
    obtain ⟨fa, hfa, ⟨rfl, hinc, hM⟩ | ⟨fb, hfb, rfl, hinc, hM⟩⟩ := hm.cases <;>
      obtain ⟨ga, hga, ⟨rfl, hinc', hP⟩ | ⟨gb, hgb, rfl, hinc', hP⟩⟩ := hp.cases
    · rw [(hM ga hga).mpr ((hP ga hga).mp rfl)]
      exact pairOK_self _
    · exact absurd hinc hinc'
    · exact absurd hinc' hinc
    · have h3 := (hP fa hfa).mpr ((hM fa hfa).mp (Or.inl rfl))
      have h4 := (hP fb hfb).mpr ((hM fb hfb).mp (Or.inr rfl))
      rcases (hM ga hga).mpr ((hP ga hga).mp (Or.inl rfl)) with rfl | rfl <;>
        rcases (hM gb hgb).mpr ((hP gb hgb).mp (Or.inr rfl)) with rfl | rfl
      · obtain rfl | rfl := h4 <;> exact pairOK_self _
      · exact pairOK_self _
      · exact pairOK_swap _ _ (ofNat_ne_fill _)
      · obtain rfl | rfl := h3 <;> exact pairOK_self _

/-- **edge_face clause** -/
theorem edgeFaceFast_eq {n : Nat} {t FE : Table} {N : List Nat} {nEdge : Nat}
    (h : Pre n t FE N nEdge) (EF : List (Int × Int)) :
    edgeFaceFast nEdge (edgeFace FE N nEdge) EF = decide (EdgeFaceOK FE N nEdge EF) := by
  obtain ⟨_, hM⟩ := (edgeFaceOK_iff_rows _ _ _ _).mp (edgeFace_ok h)
  rw [Bool.eq_iff_iff, decide_eq_true_iff, edgeFaceOK_iff_rows]
  unfold edgeFaceFast
  simp only [Bool.and_eq_true, beq_iff_eq, List.all_eq_true, List.mem_range]
  exact and_congr_right fun _ => forall₂_congr fun e he => pairOK_iff (hM e he) _

/-! #### hole_edge_indices -/

/-- **holes clause**: same set as the builder's list, no repetition -/
theorem holesFast_eq {FE : Table} {N : List Nat} {nEdge : Nat} {Hm : List Nat}
    (hM : HolesOK FE N nEdge Hm) (H : List Nat) :
    holesFast Hm H = decide (HolesOK FE N nEdge H) := by
  obtain ⟨_, hMlt, hMiff⟩ := hM
  rw [Bool.eq_iff_iff, decide_eq_true_iff]
  unfold holesFast HolesOK
  simp only [Bool.and_eq_true, decide_eq_true_eq, List.all_eq_true, List.contains_iff_mem]
  constructor
  · rintro ⟨⟨hnd, h1⟩, h2⟩
    refine ⟨hnd, fun e he => hMlt e (h1 e he), fun e he => ⟨fun hm => ?_, fun hi => ?_⟩⟩
    · exact (hMiff e he).mp (h1 e hm)
    · exact h2 e ((hMiff e he).mpr hi)
  · rintro ⟨hnd, hlt, hiff⟩
    refine ⟨⟨hnd, fun e he => ?_⟩, fun e he => ?_⟩
    · exact (hMiff e (hlt e he)).mpr ((hiff e (hlt e he)).mp he)
    · exact (hiff e (hMlt e he)).mpr ((hMiff e (hMlt e he)).mp he)

/-! #### face_face -/

theorem skipEntry_ofNat {nFace f g : Nat} (hg : g < nFace) (hfg : f ≠ g) :
    skipEntry nFace f (Int.ofNat g) = false := by
  unfold skipEntry
  rw [validFace_ofNat hg]
  have : (Int.ofNat g == Int.ofNat f) = false := by
    rw [beq_eq_false_iff_ne]; intro hh; exact hfg (by have := Int.ofNat.inj hh; omega)
  rw [this]; rfl

theorem skipEntry_false {nFace f : Nat} {x : Int} (h : skipEntry nFace f x = false) :
    ∃ g, g < nFace ∧ f ≠ g ∧ x = Int.ofNat g := by
  unfold skipEntry at h
  simp only [Bool.or_eq_false_iff, Bool.not_eq_false', beq_eq_false_iff_ne, ne_eq] at h
  obtain ⟨h1, h2⟩ := h
  rw [validFace_iff] at h2
  obtain ⟨g, hg, rfl⟩ := exists_ofNat_of_bounds h2.1 h2.2
  exact ⟨g, hg, fun hh => h1 (by rw [hh]), rfl⟩

theorem forall_skip (nFace f : Nat) (l : List Int) (P : Int → Prop) :
    (∀ x ∈ l, skipEntry nFace f x = true ∨ P x) ↔
      ∀ g, g < nFace → f ≠ g → Int.ofNat g ∈ l → P (Int.ofNat g) := by
  constructor
  · intro h g hg hfg hm
    exact (h _ hm).resolve_left (by rw [skipEntry_ofNat hg hfg]; exact Bool.false_ne_true)
  · intro h x hx
    cases hs : skipEntry nFace f x with
    | true => exact Or.inl rfl
    | false =>
      obtain ⟨g, hg, hfg, rfl⟩ := skipEntry_false hs
      exact Or.inr (h g hg hfg hx)

theorem ffMemRowOK_iff (nFace f : Nat) (r mr : List Int) :
    ffMemRowOK nFace f r mr = true ↔
      ∀ g, g < nFace → f ≠ g → (Int.ofNat g ∈ r ↔ Int.ofNat g ∈ mr) := by
  unfold ffMemRowOK
  simp only [Bool.and_eq_true, List.all_eq_true, Bool.or_eq_true, List.contains_iff_mem]
  rw [forall_skip, forall_skip]
  exact ⟨fun ⟨h1, h2⟩ g hg hfg => ⟨h1 g hg hfg, h2 g hg hfg⟩,
    fun h => ⟨fun g hg hfg => (h g hg hfg).mp, fun g hg hfg => (h g hg hfg).mpr⟩⟩

theorem ffCountRowOK_iff (nFace f : Nat) (r mr : List Int) :
    ffCountRowOK nFace f r mr = true ↔
      ∀ g, g < nFace → f ≠ g → r.count (Int.ofNat g) = mr.count (Int.ofNat g) := by
  unfold ffCountRowOK
  simp only [List.all_eq_true, Bool.or_eq_true, beq_iff_eq]
  rw [forall_skip]
  refine forall₃_congr fun g _ _ => ⟨fun h => ?_, fun h _ => h⟩
  -- a face in neither row is counted zero times in both
  by_cases hm : Int.ofNat g ∈ r ++ mr
  · exact h hm
  · rw [List.mem_append, not_or] at hm
    rw [List.count_eq_zero_of_not_mem hm.1, List.count_eq_zero_of_not_mem hm.2]

/-- **face_face, membership clause** -/
theorem faceFaceMemFast_eq {FE : Table} {N : List Nat} {nEdge : Nat} {M : Table}
    (hM : FaceFaceMemOK FE N nEdge M) (FF : Table) :
    faceFaceMemFast FE.length M FF = decide (FaceFaceMemOK FE N nEdge FF) := by
  obtain ⟨_, _, hMiff⟩ := hM
  rw [Bool.eq_iff_iff, decide_eq_true_iff]
  unfold faceFaceMemFast FaceFaceMemOK
  simp only [Bool.and_eq_true, beq_iff_eq, decide_eq_true_eq, List.all_eq_true, List.mem_range,
    ffMemRowOK_iff]
  constructor
  · rintro ⟨⟨hl, hent⟩, hrows⟩
    exact ⟨hl, hent, fun f hf g hg hfg => by rw [hrows f hf g hg hfg]; exact hMiff f hf g hg hfg⟩
  · rintro ⟨hl, hent, hiff⟩
    exact ⟨⟨hl, hent⟩, fun f hf g hg hfg => by rw [hiff f hf g hg hfg]; exact (hMiff f hf g hg hfg).symm⟩

/-- **face_face, count clause** -/
theorem faceFaceCountFast_eq {FE : Table} {N : List Nat} {nEdge : Nat} {M : Table}
    (hM : FaceFaceCountOK FE N nEdge M) (FF : Table) :
    faceFaceCountFast FE.length M FF = decide (FaceFaceCountOK FE N nEdge FF) := by
  rw [Bool.eq_iff_iff, decide_eq_true_iff]
  unfold faceFaceCountFast FaceFaceCountOK
  simp only [List.all_eq_true, List.mem_range, ffCountRowOK_iff]
  constructor
  · intro hrows f hf g hg hfg
    rw [hrows f hf g hg hfg]; exact hM f hf g hg hfg
  · intro hcnt f hf g hg hfg
    rw [hcnt f hf g hg hfg]; exact (hM f hf g hg hfg).symm

/-! #### all clauses -/

theorem clausesFast_eq {n : Nat} {t FE : Table} {N : List Nat} {nEdge : Nat}
    (hp : Pre n t FE N nEdge) (o : Out) :
    nodeFaceFast n t.length (build n 0 t FE N nEdge).nodeFace o.nodeFace
      = decide (NodeFaceOK n t o.nodeFace) ∧
    edgeFaceFast nEdge (build n 0 t FE N nEdge).edgeFace o.edgeFace
      = decide (EdgeFaceOK FE N nEdge o.edgeFace) ∧
    faceFaceMemFast FE.length (build n 0 t FE N nEdge).faceFace o.faceFace
      = decide (FaceFaceMemOK FE N nEdge o.faceFace) ∧
    faceFaceCountFast FE.length (build n 0 t FE N nEdge).faceFace o.faceFace
      = decide (FaceFaceCountOK FE N nEdge o.faceFace) ∧
    holesFast (build n 0 t FE N nEdge).holes o.holes = decide (HolesOK FE N nEdge o.holes) := by
  obtain ⟨_, _, hmem, hcnt, hholes⟩ := build_meets_spec (w := 0) hp
  exact ⟨nodeFaceFast_eq (fun f hf y hy => (hp.nodes f hf y hy).1) _, edgeFaceFast_eq hp _, faceFaceMemFast_eq hmem _,
    faceFaceCountFast_eq hcnt _, holesFast_eq hholes _⟩

/-- **the fast procedure reports exactly the clauses the specification's own decision procedure
    reports**, for every input and every candidate output (no hypothesis: outside `Pre` it falls
    back on the specification itself) -/
theorem failingFast_eq (n : Nat) (t FE : Table) (N : List Nat) (nEdge : Nat) (o : Out) :
    failingFast n t FE N nEdge o = failing n t FE N nEdge o := by
  unfold failingFast
  split
  · rename_i hp
    rw [preFast_eq, decide_eq_true_iff] at hp
    obtain ⟨e1, e2, e3, e4, e5⟩ := clausesFast_eq hp o
    simp only [failing, e1, e2, e3, e4, e5, decide_eq_true_eq]
  · rfl

/-- **`specFast_eq_spec`**: on every input meeting `Pre`, for EVERY candidate output, the fast
    procedure returns the Boolean of the specification -/
theorem specFast_eq_spec {n : Nat} {t FE : Table} {N : List Nat} {nEdge : Nat}
    (hp : Pre n t FE N nEdge) (o : Out) :
    specFast n t FE N nEdge o = decide (Spec n t FE N nEdge o) := by
  obtain ⟨e1, e2, e3, e4, e5⟩ := clausesFast_eq hp o
  rw [Bool.eq_iff_iff, decide_eq_true_iff]
  simp only [specFast, Spec, e1, e2, e3, e4, e5, Bool.and_eq_true, decide_eq_true_eq]
  exact ⟨fun ⟨⟨⟨⟨a, b⟩, c⟩, d⟩, e⟩ => ⟨a, b, c, d, e⟩, fun ⟨a, b, c, d, e⟩ => ⟨⟨⟨⟨a, b⟩, c⟩, d⟩, e⟩⟩

/-! non-vacuity: the procedures run on the three-triangle example; a wrong table is reported with
    the right clause names, and the general theorem instantiates -/
example : preFast 7 [[0, 1, 2], [2, 1, 3], [4, 5, 6]] [[0, 1, 2], [1, 3, 4], [5, 6, 7]] [3, 3, 3] 8 = true := by
  decide +kernel
/-- a non-manifold input (three faces on edge 0) is rejected by the one-pass count -/
example : preFast 5 [[0, 1, 2], [0, 1, 3], [0, 1, 4]] [[0, 1, 2], [0, 3, 4], [0, 5, 6]] [3, 3, 3] 7 = false := by
  decide +kernel
example : failingFast 7 [[0, 1, 2], [2, 1, 3], [4, 5, 6]] [[0, 1, 2], [1, 3, 4], [5, 6, 7]] [3, 3, 3] 8
    (build 7 3 [[0, 1, 2], [2, 1, 3], [4, 5, 6]] [[0, 1, 2], [1, 3, 4], [5, 6, 7]] [3, 3, 3] 8) = [] := by decide +kernel
/-- a permuted row, padding in front, the two faces of the interior edge swapped, holes in another
    order: all accepted (the specification leaves them free) -/
example : specFast 7 [[0, 1, 2], [2, 1, 3], [4, 5, 6]] [[0, 1, 2], [1, 3, 4], [5, 6, 7]] [3, 3, 3] 8
    { nodeFace := [[0, FILL], [1, 0], [FILL, 0, 1], [1], [2, FILL], [2, FILL], [FILL, 2]],
      edgeFace := [(0, FILL), (1, 0), (0, FILL), (1, FILL), (1, FILL), (2, FILL), (2, FILL), (2, FILL)],
      faceFace := [[FILL, 1], [0, FILL, FILL], []],
      holes := [7, 6, 5, 4, 3, 2, 0] } = true := by decide +kernel
/-- a neighbour credited to the wrong face (the flatten-and-sort test of the suite cannot see it) -/
example : failingFast 7 [[0, 1, 2], [2, 1, 3], [4, 5, 6]] [[0, 1, 2], [1, 3, 4], [5, 6, 7]] [3, 3, 3] 8
    { nodeFace := [[0, FILL], [0, 1], [0, 1], [1, FILL], [2, FILL], [2, FILL], [2, FILL]],
      edgeFace := [(0, FILL), (0, 1), (0, FILL), (1, FILL), (1, FILL), (2, FILL), (2, FILL), (2, FILL)],
      faceFace := [[1, FILL, FILL], [FILL, FILL, FILL], [0, FILL, FILL]],
      holes := [0, 2, 3, 4, 5, 6, 7] } = ["face_face_mem", "face_face_count"] := by decide +kernel
example := specFast_eq_spec (n := 7) (t := [[0, 1, 2], [2, 1, 3], [4, 5, 6]])
    (FE := [[0, 1, 2], [1, 3, 4], [5, 6, 7]]) (N := [3, 3, 3]) (nEdge := 8) (by decide +kernel)

/-! ### sub-meshes: C03's precondition is inherited (incidence transport, `Lemmas/C03Transport.lean`)

  `SubMesh FE N FE' N' nEdge' idx es ren`: sub-face `i` is source face `idx[i]` (`idx` duplicate-free),
  sub-edge `k` is source edge `es[k]` (`es` duplicate-free, exactly the real edges of the selected
  faces), face-edge rows renumbered by `ren`.  Nothing is assumed about the order of `idx` / `es`. -/

section Sub
variable {FE FE' : Table} {N N' : List Nat} {nEdge' : Nat} {idx : List Nat} {es : List Int} {ren : Int → Int}

/-- **every face-slot incidence of a sub-edge comes from a distinct incidence of its source edge** -/
theorem sub_incidence_le (hS : SubMesh FE N FE' N' nEdge' idx es ren) {k : Nat} (hk : k < nEdge') :
    incidence FE' N' k ≤ incidence FE N (es[k]'(hS.es_len ▸ hk)).toNat :=
  incidence_sub_le hS hk

/-- **manifoldness (every edge in at most two face slots) is inherited by sub-meshes** -/
theorem sub_manifold {nEdge : Nat} (hS : SubMesh FE N FE' N' nEdge' idx es ren)
    (hval : ∀ f, f < FE.length → ∀ e ∈ faceEdgesOf FE N f, 0 ≤ e ∧ e < nEdge)
    (hman : ∀ e, e < nEdge → incidence FE N e ≤ 2) :
    ∀ k, k < nEdge' → incidence FE' N' k ≤ 2 :=
  manifold_sub_of_valid hS hval hman

/-- **`Pre` of a sub-mesh follows from `Pre` of its source**; only the facts about the sub-mesh's own
    face-node table remain to be supplied -/
theorem sub_pre {n n' nEdge : Nat} {t t' : Table}
    (hP : Pre n t FE N nEdge) (hS : SubMesh FE N FE' N' nEdge' idx es ren)
    (hlen : FE'.length = t'.length)
    (hnodes : ∀ f, f < t'.length → ∀ v ∈ real (rowAt t' f), 0 ≤ v ∧ v < n') :
    Pre n' t' FE' N' nEdge' :=
  pre_sub hP hS hlen hnodes

/-- **"the two faces of an edge are distinct" is inherited by sub-meshes** -/
theorem sub_distinct_faces {n nEdge : Nat} {t : Table}
    (hP : Pre n t FE N nEdge) (hS : SubMesh FE N FE' N' nEdge' idx es ren)
    (hD : ∀ p ∈ edgeFace FE N nEdge, p.1 ≠ p.2) :
    ∀ p ∈ edgeFace FE' N' nEdge', p.1 ≠ p.2 :=
  distinctFaces_sub hP hS hD

/-- an edge gets the same face in both slots iff that face lists the edge twice -/
theorem distinct_faces_iff_rows_nodup {n nEdge : Nat} {t : Table} (hP : Pre n t FE N nEdge) :
    (∀ p ∈ edgeFace FE N nEdge, p.1 ≠ p.2) ↔ (∀ f, f < FE.length → (faceEdgesOf FE N f).Nodup) :=
  distinctFaces_iff_rows_nodup hP.valid fun _ he => hP.manifold he

/-- **C03 on every sub-mesh of a mesh meeting `Pre`**: the incidence tables built on the sub-mesh's own
    tables satisfy the specification — no precondition on the subset is left to be checked at run time -/
theorem sub_meets_spec {n n' nEdge : Nat} {t t' : Table} (w : Nat)
    (hP : Pre n t FE N nEdge) (hS : SubMesh FE N FE' N' nEdge' idx es ren)
    (hlen : FE'.length = t'.length)
    (hnodes : ∀ f, f < t'.length → ∀ v ∈ real (rowAt t' f), 0 ≤ v ∧ v < n') :
    Spec n' t' FE' N' nEdge' (build n' w t' FE' N' nEdge') :=
  build_meets_spec (pre_sub hP hS hlen hnodes)

end Sub

/-- non-vacuity: faces 2 and 0 (in that order) of the three-triangle example; the hypotheses are
    satisfiable and the conclusion is the specification of the sub-mesh's tables -/
example : Spec 6 [[3, 4, 5], [0, 1, 2]] [[3, 4, 5], [0, 1, 2]] [3, 3] 6
    (build 6 3 [[3, 4, 5], [0, 1, 2]] [[3, 4, 5], [0, 1, 2]] [3, 3] 6) := by
  let ren : Int → Int := fun x => if x = 0 then 0 else if x = 1 then 1 else if x = 2 then 2
    else if x = 5 then 3 else if x = 6 then 4 else if x = 7 then 5 else FILL
  have hS : SubMesh [[0, 1, 2], [1, 3, 4], [5, 6, 7]] [3, 3, 3] [[3, 4, 5], [0, 1, 2]] [3, 3] 6 [2, 0]
      [0, 1, 2, 5, 6, 7] ren :=
    { faces := by decide +kernel, idx_nodup := by decide +kernel, idx_lt := by decide +kernel, es_len := by decide +kernel,
      es_nodup := by decide +kernel, rows := by decide +kernel, ren_es := by decide +kernel, covered := by decide +kernel,
      used := by decide +kernel }
  exact sub_meets_spec (n := 7) (t := [[0, 1, 2], [2, 1, 3], [4, 5, 6]]) (nEdge := 8) 3 (by decide +kernel) hS
    (by decide +kernel) (by decide +kernel)

/-! ### the tables are rectangular: `np.pad` is never asked for a negative width -/

section Rectangular

/-- **`node_face_connectivity` is rectangular**: every row has length `maxLen` (= `n_max_node_faces`) -/
theorem nodeFace_rectangular (n : Nat) (t : Table) :
    ∀ r ∈ nodeFace n t, r.length = maxLen (nodeFaceLists n t) := by
  intro r hr
  obtain ⟨l, hl, rfl⟩ := List.mem_map.mp hr
  exact length_padTo (le_maxLen hl)

/-- … and that width is the largest number of faces any node lies in: some row has no padding -/
theorem nodeFace_width_is_max_valence (n : Nat) (t : Table) (h : 0 < maxLen (nodeFaceLists n t)) :
    ∃ v, v < n ∧ (feed (nfEvents t) v).length = maxLen (nodeFaceLists n t) := by
  rcases maxLen_attained (nodeFaceLists n t) with h0 | ⟨l, hl, hlen⟩
  · omega
  · obtain ⟨v, hv, rfl⟩ := mem_appendFold hl
    exact ⟨v, hv, hlen⟩

/-! `face_face_connectivity`: a face has at most as many neighbour entries as real edge slots -/

/-- one edge contributes to `face_face[f]` at most as often as `f` holds that edge -/
theorem ffEventsOf_feed_le {n : Nat} {t FE : Table} {N : List Nat} {nEdge : Nat}
    (h : Pre n t FE N nEdge) (e : Nat) (he : e < nEdge) (f : Nat) (hf : f < FE.length) :
    (feed (ffEventsOf ((edgeFace FE N nEdge).getD e (FILL, FILL))) f).length
      ≤ (faceEdgesOf FE N f).countP (fun y => y.toNat == e) := by
  have hc := count_feed_face FE N e f
  rw [if_pos hf] at hc
  rw [← hc]
  rcases edgeFace_cases h.nonneg he (h.manifold he) with ⟨fa, _, hrow⟩ | ⟨fa, fb, _, hl, hrow⟩
  · rw [hrow, ffEventsOf_fill]; exact Nat.zero_le _
  · -- both sides count which of `fa`, `fb` is `f`
    rw [hrow, hl, ffEventsOf_ofNat, length_feed]
    simp only [List.countP_cons, List.countP_nil, List.count_cons, List.count_nil, beq_iff_eq,
      Int.ofNat_eq_natCast, Int.natCast_inj]
    exact Nat.le_refl _

/-- **a face has at most as many neighbour entries as it has real edge slots** -/
theorem faceFace_row_le {n : Nat} {t FE : Table} {N : List Nat} {nEdge : Nat}
    (h : Pre n t FE N nEdge) (f : Nat) (hf : f < FE.length) :
    (feed (ffEvents (edgeFace FE N nEdge)) f).length ≤ (faceEdgesOf FE N f).length := by
  rw [ffEvents_eq, feed_flatMap, List.length_flatMap, edgeFace_length]
  have hle := sum_map_le_sum_map (l := List.range nEdge)
    (fun e => (feed (ffEventsOf ((edgeFace FE N nEdge).getD e (FILL, FILL))) f).length)
    (fun e => (faceEdgesOf FE N f).countP (fun y => y.toNat == e))
    (fun e he => ffEventsOf_feed_le h e (List.mem_range.mp he) f hf)
  exact Nat.le_trans hle (sum_countP_le_length _ nEdge)

/-- **`face_face_connectivity` is rectangular of width `w = n_max_face_edges`** whenever no face has more
    than `w` real edges (it has `N[f] ≤ w` slots by construction of `face_edge_connectivity`): the width handed
    to `np.pad` is never negative, the builder's error branch is unreachable on the property's domain -/
theorem faceFace_rectangular {n w : Nat} {t FE : Table} {N : List Nat} {nEdge : Nat}
    (h : Pre n t FE N nEdge) (hw : ∀ f, f < FE.length → N.getD f 0 ≤ w) :
    ∀ r ∈ faceFace FE.length w (edgeFace FE N nEdge), r.length = w := by
  intro r hr
  obtain ⟨f, hf, rfl⟩ := mem_map_appendFold hr
  have h2 : (faceEdgesOf FE N f).length ≤ N.getD f 0 := by
    rw [faceEdgesOf, List.length_take]; exact Nat.min_le_left _ _
  exact length_padTo (Nat.le_trans (faceFace_row_le h f hf) (Nat.le_trans h2 (hw f hf)))

end Rectangular

/-- non-vacuity on the three-triangle mesh; below, the bound is attained: a triangle glued to three
    others has three neighbours in three slots (no padding) -/
example : ∀ r ∈ faceFace 3 3 (edgeFace [[0, 1, 2], [1, 3, 4], [5, 6, 7]] [3, 3, 3] 8), r.length = 3 :=
  faceFace_rectangular (n := 7) (w := 3) (t := [[0, 1, 2], [2, 1, 3], [4, 5, 6]])
    (FE := [[0, 1, 2], [1, 3, 4], [5, 6, 7]]) (N := [3, 3, 3]) (nEdge := 8) (by decide +kernel) (by decide +kernel)
example : faceFace 4 3 (edgeFace [[0, 1, 2], [0, 3, 4], [1, 5, 6], [2, 7, 8]] [3, 3, 3, 3] 9)
    = [[1, 2, 3], [0, FILL, FILL], [0, FILL, FILL], [0, FILL, FILL]] := by decide +kernel
/-- outside the hypothesis the model's row is longer than `w` (where NumPy raises): width 2 for triangles -/
example : (faceFace 4 2 (edgeFace [[0, 1, 2], [0, 3, 4], [1, 5, 6], [2, 7, 8]] [3, 3, 3, 3] 9)).map List.length
    = [3, 2, 2, 2] := by decide +kernel

/-! ### the ORDER inside the rows the builders produce (what "identical to the model" means)

  The specification leaves the order inside a row free; the loops, however, are deterministic: faces are
  visited in ascending order and edges in ascending order, so node_face rows list faces ascending, an
  interior edge lists its lower-numbered face first, hole edges are ascending, and face_face rows list
  neighbours by ascending number of the shared edge — padding always last. -/

/-- **node_face rows**: the faces of a node in ascending order, then only padding -/
theorem nodeFace_row_ascending (n : Nat) (t : Table) (v : Nat) (hv : v < n) :
    rowAt (nodeFace n t) v = padTo (maxLen (nodeFaceLists n t)) (feed (nfEvents t) v) ∧
    (feed (nfEvents t) v).Pairwise (· ≤ ·) :=
  ⟨nodeFace_row n t v hv, feed_nfEvents t v ▸ fedFaces_ascending _ _⟩

/-- **edge_face rows**: an interior edge lists its lower-numbered face first (a boundary edge: face, padding) -/
theorem edgeFace_row_ordered {n : Nat} {t FE : Table} {N : List Nat} {nEdge : Nat}
    (h : Pre n t FE N nEdge) (e : Nat) (he : e < nEdge) :
    let p := (edgeFace FE N nEdge).getD e (FILL, FILL)
    p.2 = FILL ∨ p.1 ≤ p.2 := by
  rcases edgeFace_cases h.nonneg he (h.manifold he) with ⟨fa, _, hrow⟩ | ⟨fa, fb, hle, _, hrow⟩
  · exact Or.inl (by rw [hrow])
  · exact Or.inr (by rw [hrow]; exact Int.ofNat_le.mpr hle)

/-- **hole_edge_indices** are ascending (`np.where`) -/
theorem holes_ascending (EF : List (Int × Int)) : (holeEdges EF).Pairwise (· < ·) := by
  unfold holeEdges; exact List.Pairwise.filter _ List.pairwise_lt_range

/-- **face_face rows**: the neighbours across the face's interior edges by ascending edge number, then only
    padding (closed form of the row) -/
theorem faceFace_row_by_edge (nFace w : Nat) (EF : List (Int × Int)) (f : Nat) (hf : f < nFace) :
    rowAt (faceFace nFace w EF) f
      = padTo w ((List.range EF.length).flatMap (fun e => feed (ffEventsOf (EF.getD e (FILL, FILL))) f)) := by
  rw [faceFace_row nFace w EF f hf, ffEvents_eq, feed_flatMap]

/-- the order on the three-triangle example, and on a fan where the order is visible: face 0 of the fan
    meets face 3 across edge 0 and face 1 across edge 1, so its row reads `[3, 1]`, not `[1, 3]` -/
example : (build 5 3 [[0, 1, 2], [0, 2, 3], [0, 3, 4], [0, 4, 1]]
      [[0, 2, 1], [1, 4, 3], [3, 6, 5], [5, 7, 0]] [3, 3, 3, 3] 8).faceFace
    = [[3, 1, FILL], [0, 2, FILL], [1, 3, FILL], [0, 2, FILL]] := by decide +kernel
example := edgeFace_row_ordered (n := 7) (t := [[0, 1, 2], [2, 1, 3], [4, 5, 6]])
    (FE := [[0, 1, 2], [1, 3, 4], [5, 6, 7]]) (N := [3, 3, 3]) (nEdge := 8) (by decide +kernel) 1 (by decide +kernel)

/-- **remark: the Euler count does not determine the holes.**  A closed tetrahedron (V, E, F = 4, 6, 4) and two
    isolated triangles (6, 6, 2) both have V − E + F = 2 (in general V − E + F = 2·components − boundary loops), and
    both meet `Pre`; the first has no hole edge, in the second EVERY edge is one.  Hole edges are the
    single-incidence edges (`holes_ok`), whatever the counts say. -/
theorem euler_count_does_not_determine_holes :
    ((4 : Int) - 6 + 4 = 2 ∧ (6 : Int) - 6 + 2 = 2) ∧
    Pre 4 [[0, 1, 2], [0, 3, 1], [1, 3, 2], [2, 3, 0]] [[0, 1, 2], [3, 4, 0], [4, 5, 1], [5, 3, 2]] [3, 3, 3, 3] 6 ∧
    Pre 6 [[0, 1, 2], [3, 4, 5]] [[0, 1, 2], [3, 4, 5]] [3, 3] 6 ∧
    holeEdges (edgeFace [[0, 1, 2], [3, 4, 0], [4, 5, 1], [5, 3, 2]] [3, 3, 3, 3] 6) = [] ∧
    holeEdges (edgeFace [[0, 1, 2], [3, 4, 5]] [3, 3] 6) = [0, 1, 2, 3, 4, 5] := by decide +kernel

end UxVerif.C03
