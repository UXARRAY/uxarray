/-
  C05 — Face areas are the spherical-polygon areas, invariantly.

  G. The tables of `Gen/QuadTables.lean` (regenerated on every run by `harness/translate_quad.py`,
     which CALLS `get_tri_quadratureDG` / `get_gauss_quadratureDG`): weights sum to 1, are positive,
     and every monomial up to the rule's degree (in the barycentric coordinates the code evaluates)
     is integrated to 1e-12, so a changed digit (≥ 1e-12) in any order, tested or not, stops a
     theorem from checking.  Kernel evaluation on the integer numerators, restated in ℚ
     (`tri_exact_rat`, `gauss_exact_rat`).  Symmetry, the stored third column and sharpness of the
     degrees are REPORTED by the driver (`C05.tablecheck`), not demanded: a better or differently
     laid out table is not a violation.
  J. What the quadrature integrates: both Jacobian routines evaluate `|F·(A×B)|/|F|³`
     (`jacCore_eq_triple`, `jacBary_closed`, `jacGauss_closed`), and that IS the area element
     `|∂ₐP × ∂_bP|` of the code's parametrisation `P = F/|F|` (`bary_area_element`,
     `gauss_area_element`) — so the table theorems are about quadrature of the true area element.
  T. Theorems about the model `Model/Area.lean` (transcription of `grid/area.py`, generic over the
     field), for ALL corner lists, tables, node numberings, orthogonal maps and call histories:
     `area_face_local`, `area_renumber`, `area_face_order`, `area_split`, `fan_shift(_approx)`,
     `area_rotation(_grid)`, `area_latlon_eq_xyz`, `area_nonneg(_tables)`, `cache_history`,
     `cache_eq_fresh`, `default_rule_supported`; and the as-is defect `asis_cartesian_area_zero`,
     `asis_violates_input_independence` (repaired by `fixes/C05-cartesian-dim.patch`).
  G and T meet only in `area_nonneg_tables` (through `triTable`, `gaussTable`): no theorem carries
  the moment exactness of the integer tables over to `faceArea` of those tables.

  NOT proved (tested by the harness against the exact spherical excess): the accuracy thresholds
  1e-6 / 1e-4 / 1e-2, convergence with the order, Σ = 4π, IEEE rounding.
-/
import Mathlib.Analysis.SpecialFunctions.Sqrt
import Mathlib.Analysis.Calculus.Deriv.Mul
import Mathlib.Analysis.Calculus.Deriv.Inv
import Mathlib.Analysis.Calculus.Deriv.Add
import Mathlib.Tactic.FieldSimp
import Mathlib.Tactic.Positivity
import UxVerif.Lemmas.Area
import UxVerif.Gen.Defaults

namespace UxVerif.C05
open UxVerif UxVerif.Area UxVerif.Gen.Quad

/-! ## G. The quadrature tables as the code returns them today -/

/-- tolerance of every table statement: `1e-12` -/
def TOL : Nat := 10 ^ 12

/-- the property's quantifier: every order it names ("triangular 1,4,8,10,12; gaussian 1..10") is
    an order for which the code returns a table today -/
theorem supported_orders :
    (∀ o ∈ [1, 4, 8, 10, 12], o ∈ TRI_ORDERS) ∧
    (∀ n ∈ [1, 2, 3, 4, 5, 6, 7, 8, 9, 10], n ∈ GAUSS_ORDERS) := by
  decide

/-- a table exists exactly for the listed orders (both directions, for EVERY natural number) -/
theorem tri_keys (o : Nat) : o ∈ TRI_ORDERS ↔ tri o ≠ [] := by
  constructor
  · intro h he
    have hall : (TRI_ORDERS.all fun o => !(tri o).isEmpty) = true := by decide +kernel
    simpa [he] using List.all_eq_true.mp hall o h
  · intro h
    unfold Gen.Quad.tri at h
    split at h <;> first | decide | exact absurd rfl h

theorem gauss_keys (n : Nat) : n ∈ GAUSS_ORDERS ↔ gauss n ≠ [] := by
  constructor
  · intro h he
    have hall : (GAUSS_ORDERS.all fun n => !(gauss n).isEmpty) = true := by decide +kernel
    simpa [he] using List.all_eq_true.mp hall n h
  · intro h
    unfold Gen.Quad.gauss at h
    split at h <;> first | decide | exact absurd rfl h

/-- **the model accepts `(rule, order)` iff the code has a quadrature table for it** -/
theorem supported_iff_table (rule order : Nat) :
    supported rule order = true ↔
      (rule = 1 ∧ tri order ≠ []) ∨ (rule = 0 ∧ gauss order ≠ []) := by
  unfold supported
  simp only [Bool.or_eq_true, Bool.and_eq_true, beq_iff_eq, List.contains_iff_mem, tri_keys, gauss_keys]

/-- **every rule/order the property quantifies over is accepted** (`supported_orders`, read through
    `supported`) -/
theorem supported_quantifier :
    (∀ o ∈ [1, 4, 8, 10, 12], supported 1 o = true) ∧
    (∀ n ∈ [1, 2, 3, 4, 5, 6, 7, 8, 9, 10], supported 0 n = true) := by
  decide

-- non-vacuity: the decision discriminates (no table for these), and no other rule number is accepted
example : supported 0 0 = false ∧ supported 0 17 = false ∧ supported 1 0 = false ∧ supported 2 4 = false := by
  decide

/-! ### triangular rules, one theorem per order (so that a broken table names its order) -/

theorem tri_exact_1 : ∀ a b c, a + b + c ≤ 1 → triMomentOK DEN (tri 1) TOL a b c = true :=
  triMomentOK_of_exactN_or_exactB (by decide +kernel)
theorem tri_exact_4 : ∀ a b c, a + b + c ≤ 4 → triMomentOK DEN (tri 4) TOL a b c = true :=
  triMomentOK_of_exactN_or_exactB (by decide +kernel)
theorem tri_exact_8 : ∀ a b c, a + b + c ≤ 8 → triMomentOK DEN (tri 8) TOL a b c = true :=
  triMomentOK_of_exactN_or_exactB (by decide +kernel)
theorem tri_exact_10 : ∀ a b c, a + b + c ≤ 10 → triMomentOK DEN (tri 10) TOL a b c = true :=
  triMomentOK_of_exactN_or_exactB (by decide +kernel)
theorem tri_exact_12 : ∀ a b c, a + b + c ≤ 12 → triMomentOK DEN (tri 12) TOL a b c = true :=
  triMomentOK_of_exactN_or_exactB (by decide +kernel)

/-- **moment exactness of every supported triangular rule**: for every order `o` the code supports
    and every monomial `λ₀ᵃλ₁ᵇλ₂ᶜ` of total degree `≤ o`,
    `|Σ_p w_p G₀ᵃG₁ᵇ(1−G₀−G₁)ᶜ − 2·a!b!c!/(a+b+c+2)!| ≤ 1e-12`. -/
theorem tri_exact : ∀ o ∈ TRI_ORDERS, ∀ a b c, a + b + c ≤ triDeg o →
    triMomentOK DEN (tri o) TOL a b c = true := by
  intro o ho
  simp only [TRI_ORDERS, List.mem_cons, List.not_mem_nil, or_false] at ho
  rcases ho with rfl | rfl | rfl | rfl | rfl
  exacts [tri_exact_1, tri_exact_4, tri_exact_8, tri_exact_10, tri_exact_12]

/-- `|Σ_p w_p − 1| ≤ 1e-12` -/
theorem tri_weights_sum : ∀ o ∈ TRI_ORDERS, triWeightsSumB DEN (tri o) TOL = true :=
  List.all_eq_true.mp (by decide +kernel)

/-- **all weights of every triangular rule are strictly positive** (true of the five rules the
    code has today; through `triTable_nonneg` this is what `area_nonneg_tables` needs) -/
theorem tri_weights_pos : ∀ o ∈ TRI_ORDERS, ∀ r ∈ tri o, 0 < TriRow.w r := by
  have h : (TRI_ORDERS.all fun o => triWeightsPosB (tri o)) = true := by decide +kernel
  exact fun o ho r hr => of_decide_eq_true (List.all_eq_true.mp (List.all_eq_true.mp h o ho) r hr)

/-! ### Gauss rules on `[0,1]` (as returned, i.e. after the code's own scaling) -/

/-- **moment exactness of every supported Gauss rule**: `|Σ w xᵈ − 1/(d+1)| ≤ 1e-12` for
    `d ≤ 2n−1` (`n = 9` is a Lobatto rule in the code: `d ≤ 15`). -/
theorem gauss_exact : ∀ n ∈ GAUSS_ORDERS, ∀ d, d ≤ gaussDeg n →
    gaussMomentOK DEN (gauss n) TOL d = true := by
  have h : (GAUSS_ORDERS.all fun n => gaussExactB DEN (gauss n) (gaussDeg n) TOL) = true := by
    decide +kernel
  intro n hn d hd
  exact List.all_eq_true.mp (List.all_eq_true.mp h n hn) d (List.mem_range.mpr (by omega))

/-- the degree of exactness never decreases with the order (orders 8 and 9 tie at 15); recorded for
    the harness's convergence test, not used by a theorem -/
theorem gauss_degree_monotone : ∀ m n, m ≤ n → n ≤ 10 → gaussDeg m ≤ gaussDeg n := by
  intro m n h1 h2
  unfold gaussDeg
  split <;> split <;> omega

theorem gauss_weights_pos : ∀ n ∈ GAUSS_ORDERS, ∀ r ∈ gauss n, 0 < r.2 := by
  have h : (GAUSS_ORDERS.all fun n => gaussWeightsPosB (gauss n)) = true := by decide +kernel
  exact fun n hn r hr => of_decide_eq_true (List.all_eq_true.mp (List.all_eq_true.mp h n hn) r hr)

/-! ### the checkers restated in ℚ -/

/-- **what `closeB` says**: `|S/Dp − p/q| ≤ 1/T` -/
theorem closeB_iff (S : Int) (Dp p q T : Nat) (hD : 0 < Dp) (hq : 0 < q) (hT : 0 < T) :
    closeB S Dp p q T = true ↔ |(S : ℚ) / Dp - (p : ℚ) / q| ≤ 1 / (T : ℚ) := by
  have hD' : (0 : ℚ) < Dp := Nat.cast_pos.mpr hD
  have hq' : (0 : ℚ) < q := Nat.cast_pos.mpr hq
  have hT' : (0 : ℚ) < T := Nat.cast_pos.mpr hT
  unfold closeB
  rw [decide_eq_true_iff, div_sub_div _ _ hD'.ne' hq'.ne', abs_div, abs_of_pos (mul_pos hD' hq'),
    div_le_div_iff₀ (mul_pos hD' hq') hT', one_mul, ← Nat.cast_le (α := ℚ)]
  push_cast [Nat.cast_natAbs]
  rw [mul_comm (q : ℚ) Dp, mul_comm (Dp : ℚ) p]

/-- the quadrature sum `Σ_p w_p G₀ᵃ G₁ᵇ (1−G₀−G₁)ᶜ` of a table whose entries are `numerator / D` -/
def triSumQ (D : Nat) (t : List TriRow) (a b c : Nat) : ℚ :=
  (t.map fun r : TriRow =>
    (r.w : ℚ) / D * ((r.g0 : ℚ) / D) ^ a * ((r.g1 : ℚ) / D) ^ b
      * (1 - (r.g0 : ℚ) / D - (r.g1 : ℚ) / D) ^ c).sum

def gaussSumQ (D : Nat) (t : List GaussRow) (d : Nat) : ℚ :=
  (t.map fun r : GaussRow => (r.2 : ℚ) / D * ((r.1 : ℚ) / D) ^ d).sum

theorem sum_eq_foldl_div {β : Type} (f : β → Int) (q : β → ℚ) (c : ℚ) (h : ∀ r, q r = f r / c)
    (t : List β) : (t.map q).sum = ((t.foldl (fun s r => s + f r) 0 : Int) : ℚ) / c := by
  rw [funext h, ← List.foldl_map (f := f) (g := (· + ·)), ← List.sum_eq_foldl, Int.cast_list_sum,
    List.map_map, div_eq_mul_inv, ← List.sum_map_mul_right]
  rfl

theorem triSumQ_eq (D : Nat) (hD : 0 < D) (t : List TriRow) (a b c : Nat) :
    triSumQ D t a b c = (triMoment D t a b c : ℚ) / (D : ℚ) ^ (a + b + c + 1) := by
  have hD' : (D : ℚ) ≠ 0 := Nat.cast_ne_zero.mpr hD.ne'
  refine sum_eq_foldl_div _ _ _ (fun r => ?_) t
  have e : (1 : ℚ) - (r.g0 : ℚ) / D - (r.g1 : ℚ) / D = ((D : ℚ) - r.g0 - r.g1) / D := by
    rw [sub_div, sub_div, div_self hD']
  push_cast
  rw [e, div_pow, div_pow, div_pow, div_mul_div_comm, div_mul_div_comm, div_mul_div_comm]
  congr 1
  ring

theorem gaussSumQ_eq (D : Nat) (t : List GaussRow) (d : Nat) :
    gaussSumQ D t d = (gaussMoment t d : ℚ) / (D : ℚ) ^ (d + 1) := by
  refine sum_eq_foldl_div _ _ _ (fun r => ?_) t
  push_cast
  rw [div_pow, div_mul_div_comm, pow_succ']

theorem fact_eq_factorial (n : Nat) : fact n = n.factorial := by
  induction n with
  | zero => rfl
  | succ n ih => rw [fact, ih, Nat.factorial_succ]

theorem fact_pos (n : Nat) : 0 < fact n := fact_eq_factorial n ▸ n.factorial_pos

theorem DEN_pos : 0 < DEN := by decide +kernel

/-- **what `triMomentOK` says**: the table's quadrature sum of `λ₀ᵃλ₁ᵇλ₂ᶜ` is within `1/T` of the
    exact integral `2·a!·b!·c!/(a+b+c+2)!` (normalised to `∫ 1 = 1`, as the code halves the Jacobian). -/
theorem triMomentOK_iff (D : Nat) (hD : 0 < D) (t : List TriRow) (T a b c : Nat) (hT : 0 < T) :
    triMomentOK D t T a b c = true ↔
      |triSumQ D t a b c - (2 * fact a * fact b * fact c : ℕ) / (fact (a + b + c + 2) : ℕ)| ≤ 1 / (T : ℚ) := by
  unfold triMomentOK
  rw [closeB_iff _ _ _ _ _ (Nat.pow_pos hD) (fact_pos _) hT, triSumQ_eq D hD]
  push_cast
  rfl

theorem gaussMomentOK_iff (D : Nat) (hD : 0 < D) (t : List GaussRow) (T d : Nat) (hT : 0 < T) :
    gaussMomentOK D t T d = true ↔ |gaussSumQ D t d - 1 / ((d : ℚ) + 1)| ≤ 1 / (T : ℚ) := by
  unfold gaussMomentOK
  rw [closeB_iff _ _ _ _ _ (Nat.pow_pos hD) (Nat.succ_pos d) hT, gaussSumQ_eq]
  push_cast
  rfl

/-- **moment exactness, in plain rational arithmetic**: for every supported triangular order `o`
    and every monomial of total degree `≤ o`, the code's table integrates it to within `1e-12`. -/
theorem tri_exact_rat : ∀ o ∈ TRI_ORDERS, ∀ a b c, a + b + c ≤ o →
    |triSumQ DEN (tri o) a b c - (2 * fact a * fact b * fact c : ℕ) / (fact (a + b + c + 2) : ℕ)|
      ≤ 1 / ((10 ^ 12 : ℕ) : ℚ) := by
  intro o ho a b c h
  exact (triMomentOK_iff DEN DEN_pos (tri o) TOL a b c (by decide)).mp (tri_exact o ho a b c h)

/-- … and every supported `n`-point Gauss rule integrates `xᵈ` on `[0,1]` to within `1e-12` for
    `d ≤ 2n−1` (`n = 9`: `d ≤ 15`). -/
theorem gauss_exact_rat : ∀ n ∈ GAUSS_ORDERS, ∀ d, d ≤ gaussDeg n →
    |gaussSumQ DEN (gauss n) d - 1 / ((d : ℚ) + 1)| ≤ 1 / ((10 ^ 12 : ℕ) : ℚ) := by
  intro n hn d h
  exact (gaussMomentOK_iff DEN DEN_pos (gauss n) TOL d (by decide)).mp (gauss_exact n hn d h)

-- non-vacuity: the checkers discriminate.  A synthetic one-point "rule" at (0.3, 0.3, 0.4) does not
-- integrate λ₀; the centroid rule integrates degree 1 but not degree 2; the 2-point Gauss rule with a
-- mistyped node fails.  (Sharpness of the code's own tables — degree o+1 is not integrated, order 9 is a
-- Lobatto rule — is reported in the evidence by the driver, not demanded: a better table is not a violation.)
-- The last example is a positive case for contrast.
example : triMomentOK 10 [(3, 3, 4, 10)] TOL 1 0 0 = false := by decide +kernel
example : triExactB 3 [(1, 1, 1, 3)] 1 TOL = true ∧ triMomentOK 3 [(1, 1, 1, 3)] TOL 2 0 0 = false := by
  decide +kernel
example : gaussMomentOK 100 [(21, 50), (78, 50)] TOL 1 = false := by decide +kernel
example : triMomentOK DEN (tri 12) TOL 4 4 4 = true := by decide +kernel

/-! ## J. The integrand IS the area element of the code's parametrisation -/

def triple {K : Type} [Field K] (F A B : V3 K) : K := dot F (cross A B)

section param
variable {K : Type} [Field K]

/-- the projected tangent the code forms (`dDaG * dDenomTerm`), spelled exactly as `jacCore`'s lets so
    that `jacCore_is_cross_norm` holds by `rfl` -/
def tang (sqrt : K → K) (F A : V3 K) : V3 K :=
  let den := 1 / sqrt (F.x * F.x + F.y * F.y + F.z * F.z) * (1 / sqrt (F.x * F.x + F.y * F.y + F.z * F.z))
    * (1 / sqrt (F.x * F.x + F.y * F.y + F.z * F.z))
  ⟨(A.x * (F.y * F.y + F.z * F.z) - F.x * (A.y * F.y + A.z * F.z)) * den,
   (A.y * (F.x * F.x + F.z * F.z) - F.y * (A.x * F.x + A.z * F.z)) * den,
   (A.z * (F.x * F.x + F.y * F.y) - F.z * (A.x * F.x + A.y * F.y)) * den⟩

theorem jacCore_is_cross_norm (sqrt : K → K) (F A B : V3 K) :
    jacCore sqrt F A B
      = sqrt (dot (cross (tang sqrt F A) (tang sqrt F B)) (cross (tang sqrt F A) (tang sqrt F B))) := rfl

theorem tang_eq (sqrt : K → K) (F A : V3 K) :
    tang sqrt F A = smul ((1 / sqrt (dot F F)) ^ 3) (proj F A) := by
  simp only [tang, smul, proj, vsub, dot, V3.mk.injEq]
  refine ⟨?_, ?_, ?_⟩ <;> ring

/-- both tangents are normal to `F`, so their cross product is `(F·F)(F·(A×B)) F / |F|⁶`
    (`Area.cross_proj`) -/
theorem jacCore_eq (sqrt : K → K) (F A B : V3 K) :
    jacCore sqrt F A B = sqrt ((1 / sqrt (dot F F)) ^ 12 * dot F F ^ 3 * triple F A B ^ 2) := by
  rw [jacCore_is_cross_norm, tang_eq, tang_eq, cross_smul, cross_proj, dot_smul, dot_smul]
  congr 1
  unfold triple
  ring

theorem jacCore_of_triple_eq_zero (sqrt : K → K) {F A B : V3 K} (h : triple F A B = 0) :
    jacCore sqrt F A B = sqrt 0 := by
  rw [jacCore_eq, h, zero_pow two_ne_zero, mul_zero]

/-- `w + h·v` -/
def axpy (h : K) (v w : V3 K) : V3 K := ⟨w.x + h * v.x, w.y + h * v.y, w.z + h * v.z⟩

theorem axpy_zero (v w : V3 K) : axpy 0 v w = w := by
  simp only [axpy, zero_mul, add_zero]

/-- the point `dF` of `calculate_spherical_triangle_jacobian_barycentric` -/
def baryF (n1 n2 n3 : V3 K) (a b : K) : V3 K :=
  ⟨a * n1.x + b * n2.x + (1 - a - b) * n3.x, a * n1.y + b * n2.y + (1 - a - b) * n3.y,
   a * n1.z + b * n2.z + (1 - a - b) * n3.z⟩
/-- the point `dF` of `calculate_spherical_triangle_jacobian` (collapsed square) -/
def gaussF (n1 n2 n3 : V3 K) (a b : K) : V3 K :=
  ⟨(1 - b) * ((1 - a) * n1.x + a * n2.x) + b * n3.x, (1 - b) * ((1 - a) * n1.y + a * n2.y) + b * n3.y,
   (1 - b) * ((1 - a) * n1.z + a * n2.z) + b * n3.z⟩
/-- the code's `dDaF`, `dDbF` of the collapsed square -/
def gaussDa (n1 n2 : V3 K) (b : K) : V3 K := smul (1 - b) (vsub n2 n1)
def gaussDb (n1 n2 n3 : V3 K) (a : K) : V3 K := vadd (vsub (smul (-(1 - a)) n1) (smul a n2)) n3

theorem baryF_eq (n1 n2 n3 : V3 K) (a b : K) :
    baryF n1 n2 n3 a b = vadd (vadd (smul a n1) (smul b n2)) (smul (1 - a - b) n3) := rfl
theorem gaussF_eq (n1 n2 n3 : V3 K) (a b : K) :
    gaussF n1 n2 n3 a b = vadd (smul (1 - b) (vadd (smul (1 - a) n1) (smul a n2))) (smul b n3) := rfl

theorem jacBary_unfold (sqrt : K → K) (n1 n2 n3 : V3 K) (a b : K) :
    jacBary sqrt n1 n2 n3 a b = jacCore sqrt (baryF n1 n2 n3 a b) (vsub n1 n3) (vsub n2 n3) / 2 := rfl
theorem jacGauss_unfold (sqrt : K → K) (n1 n2 n3 : V3 K) (a b : K) :
    jacGauss sqrt n1 n2 n3 a b
      = jacCore sqrt (gaussF n1 n2 n3 a b) (gaussDa n1 n2 b) (gaussDb n1 n2 n3 a) := rfl

/-- the maps are affine in each parameter and the vectors the code calls `dDaF`, `dDbF` are
    EXACTLY their partial derivatives (difference quotients without remainder) -/
theorem baryF_partial_a (n1 n2 n3 : V3 K) (a b h : K) :
    baryF n1 n2 n3 (a + h) b = axpy h (vsub n1 n3) (baryF n1 n2 n3 a b) := by
  have row (p q r : K) : (a + h) * p + b * q + (1 - (a + h) - b) * r
      = a * p + b * q + (1 - a - b) * r + h * (p - r) := by ring
  simp only [baryF, axpy, vsub, row]
theorem baryF_partial_b (n1 n2 n3 : V3 K) (a b h : K) :
    baryF n1 n2 n3 a (b + h) = axpy h (vsub n2 n3) (baryF n1 n2 n3 a b) := by
  have row (p q r : K) : a * p + (b + h) * q + (1 - a - (b + h)) * r
      = a * p + b * q + (1 - a - b) * r + h * (q - r) := by ring
  simp only [baryF, axpy, vsub, row]
theorem gaussF_partial_a (n1 n2 n3 : V3 K) (a b h : K) :
    gaussF n1 n2 n3 (a + h) b = axpy h (gaussDa n1 n2 b) (gaussF n1 n2 n3 a b) := by
  have row (p q r : K) : (1 - b) * ((1 - (a + h)) * p + (a + h) * q) + b * r
      = (1 - b) * ((1 - a) * p + a * q) + b * r + h * ((1 - b) * (q - p)) := by ring
  simp only [gaussF, axpy, gaussDa, smul, vsub, row]
theorem gaussF_partial_b (n1 n2 n3 : V3 K) (a b h : K) :
    gaussF n1 n2 n3 a (b + h) = axpy h (gaussDb n1 n2 n3 a) (gaussF n1 n2 n3 a b) := by
  have row (p q r : K) : (1 - (b + h)) * ((1 - a) * p + a * q) + (b + h) * r
      = (1 - b) * ((1 - a) * p + a * q) + b * r + h * (-(1 - a) * p - a * q + r) := by ring
  simp only [gaussF, axpy, gaussDb, vadd, smul, vsub, row]

theorem triple_bary (n1 n2 n3 : V3 K) (a b : K) :
    triple (baryF n1 n2 n3 a b) (vsub n1 n3) (vsub n2 n3) = triple n1 n2 n3 := by
  unfold triple baryF vsub dot cross; ring
theorem triple_gauss (n1 n2 n3 : V3 K) (a b : K) :
    triple (gaussF n1 n2 n3 a b) (gaussDa n1 n2 b) (gaussDb n1 n2 n3 a) = (1 - b) * triple n1 n2 n3 := by
  unfold triple gaussF gaussDa gaussDb vadd smul vsub dot cross; ring

/-- radial projection onto the unit sphere -/
def nrm (sqrt : K → K) (v : V3 K) : V3 K :=
  ⟨v.x / sqrt (dot v v), v.y / sqrt (dot v v), v.z / sqrt (dot v v)⟩

end param

/-- the derivative at 0 of one component of `(F + tA)/|F + tA|`: `f` the component, `N = |F + tA|²`
    with `N 0 = F·F = s`, `N' 0 = 2 A·F = 2 ta`; the value is the component of `tang` as `tang_eq` has it -/
theorem hasDerivAt_div_sqrt {f N : ℝ → ℝ} {p q s ta : ℝ} (hf : HasDerivAt f q 0)
    (hN : HasDerivAt N (2 * ta) 0) (f0 : f 0 = p) (N0 : N 0 = s) (hs : 0 < s) :
    HasDerivAt (fun t => f t / √(N t)) ((1 / √s) ^ 3 * (s * q - ta * p)) 0 := by
  obtain ⟨u, hu, rfl⟩ : ∃ u : ℝ, 0 < u ∧ s = u ^ 2 :=
    ⟨√s, Real.sqrt_pos.mpr hs, (Real.sq_sqrt hs.le).symm⟩
  have h := hf.div (hN.sqrt (N0 ▸ hs.ne')) (by rw [N0, Real.sqrt_sq hu.le]; exact hu.ne')
  rw [f0, N0, Real.sqrt_sq hu.le] at h
  rw [Real.sqrt_sq hu.le]
  refine h.congr_deriv ?_
  field_simp

/-- **the projected tangent is the derivative of the normalised point**: moving the flat point along
    `F + t·A`, the point on the sphere `(F + tA)/|F + tA|` has velocity `tang F A` at `t = 0`
    (component-wise; `F ≠ 0`). -/
theorem normalize_hasDerivAt (F A : V3 ℝ) (hF : 0 < dot F F) :
    HasDerivAt (fun t => (nrm Real.sqrt (axpy t A F)).x) (tang Real.sqrt F A).x 0 ∧
    HasDerivAt (fun t => (nrm Real.sqrt (axpy t A F)).y) (tang Real.sqrt F A).y 0 ∧
    HasDerivAt (fun t => (nrm Real.sqrt (axpy t A F)).z) (tang Real.sqrt F A).z 0 := by
  have hg : ∀ p q : ℝ, HasDerivAt (fun t : ℝ => p + t * q) q 0 := fun p q => by
    simpa using ((hasDerivAt_id (0 : ℝ)).mul_const q).const_add p
  have hN : HasDerivAt (fun t => dot (axpy t A F) (axpy t A F)) (2 * dot A F) 0 := by
    refine ((((hg F.x A.x).mul (hg F.x A.x)).add ((hg F.y A.y).mul (hg F.y A.y))).add
      ((hg F.z A.z).mul (hg F.z A.z))).congr_deriv ?_
    simp only [dot]
    ring
  rw [tang_eq]
  exact ⟨hasDerivAt_div_sqrt (hg F.x A.x) hN (by rw [axpy_zero]) (by rw [axpy_zero]) hF,
    hasDerivAt_div_sqrt (hg F.y A.y) hN (by rw [axpy_zero]) (by rw [axpy_zero]) hF,
    hasDerivAt_div_sqrt (hg F.z A.z) hN (by rw [axpy_zero]) (by rw [axpy_zero]) hF⟩

/-- **closed form of the Jacobian both routines evaluate** (over ℝ, `F ≠ 0`):
    `jacCore F A B = |F · (A × B)| / |F|³`. -/
theorem jacCore_eq_triple (F A B : V3 ℝ) (hF : 0 < dot F F) :
    jacCore Real.sqrt F A B = |triple F A B| / Real.sqrt (dot F F) ^ 3 := by
  have hu : 0 < Real.sqrt (dot F F) := Real.sqrt_pos.mpr hF
  have key : ∀ u s t : ℝ, 0 < u → u ^ 2 = s → (1 / u) ^ 12 * s ^ 3 * t ^ 2 = (t / u ^ 3) ^ 2 := by
    intro u s t hu hs
    subst hs
    field_simp
  rw [jacCore_eq, key _ _ _ hu (Real.sq_sqrt hF.le), Real.sqrt_sq_eq_abs, abs_div,
    abs_of_pos (pow_pos hu 3)]

/-- **the integrand of the triangular rules is the solid-angle density of the flat triangle**:
    at the point `F = a n₁ + b n₂ + (1−a−b) n₃`, `jacBary = |n₁·(n₂×n₃)| / (2 |F|³)`. -/
theorem jacBary_closed (n1 n2 n3 : V3 ℝ) (a b : ℝ) (hF : 0 < dot (baryF n1 n2 n3 a b) (baryF n1 n2 n3 a b)) :
    jacBary Real.sqrt n1 n2 n3 a b
      = |triple n1 n2 n3| / (2 * Real.sqrt (dot (baryF n1 n2 n3 a b) (baryF n1 n2 n3 a b)) ^ 3) := by
  rw [jacBary_unfold, jacCore_eq_triple _ _ _ hF, triple_bary, div_div, mul_comm]

/-- … and of the Gauss rules the same density times the collapse factor `|1 − b|` of the square. -/
theorem jacGauss_closed (n1 n2 n3 : V3 ℝ) (a b : ℝ) (hF : 0 < dot (gaussF n1 n2 n3 a b) (gaussF n1 n2 n3 a b)) :
    jacGauss Real.sqrt n1 n2 n3 a b
      = |1 - b| * |triple n1 n2 n3| / Real.sqrt (dot (gaussF n1 n2 n3 a b) (gaussF n1 n2 n3 a b)) ^ 3 := by
  rw [jacGauss_unfold, jacCore_eq_triple _ _ _ hF, triple_gauss, abs_mul]

/-- **the integrand IS the area element of the code's parametrisation (triangular rules)**: the map
    `P(a,b) = F(a,b)/|F(a,b)|`, `F = a n₁ + b n₂ + (1−a−b) n₃`, of the flat triangle onto the sphere has
    partial derivatives `∂ₐP`, `∂_bP` (component-wise `HasDerivAt`), and `2·jacBary = |∂ₐP × ∂_bP|` — the
    factor 2 is the area of the reference triangle that the weights (`Σ w = 1`) are normalised by. -/
theorem bary_area_element (n1 n2 n3 : V3 ℝ) (a b : ℝ)
    (hF : 0 < dot (baryF n1 n2 n3 a b) (baryF n1 n2 n3 a b)) :
    ∃ Pa Pb : V3 ℝ,
      (HasDerivAt (fun t => (nrm Real.sqrt (baryF n1 n2 n3 (a + t) b)).x) Pa.x 0 ∧
       HasDerivAt (fun t => (nrm Real.sqrt (baryF n1 n2 n3 (a + t) b)).y) Pa.y 0 ∧
       HasDerivAt (fun t => (nrm Real.sqrt (baryF n1 n2 n3 (a + t) b)).z) Pa.z 0) ∧
      (HasDerivAt (fun t => (nrm Real.sqrt (baryF n1 n2 n3 a (b + t))).x) Pb.x 0 ∧
       HasDerivAt (fun t => (nrm Real.sqrt (baryF n1 n2 n3 a (b + t))).y) Pb.y 0 ∧
       HasDerivAt (fun t => (nrm Real.sqrt (baryF n1 n2 n3 a (b + t))).z) Pb.z 0) ∧
      2 * jacBary Real.sqrt n1 n2 n3 a b = Real.sqrt (dot (cross Pa Pb) (cross Pa Pb)) := by
  refine ⟨tang Real.sqrt (baryF n1 n2 n3 a b) (vsub n1 n3), tang Real.sqrt (baryF n1 n2 n3 a b) (vsub n2 n3), ?_, ?_, ?_⟩
  · simp only [baryF_partial_a]; exact normalize_hasDerivAt _ _ hF
  · simp only [baryF_partial_b]; exact normalize_hasDerivAt _ _ hF
  · rw [jacBary_unfold, jacCore_is_cross_norm]; ring

/-- **… and of the Gauss rules** on the collapsed square `F = (1−b)((1−a) n₁ + a n₂) + b n₃`:
    `jacGauss = |∂ₐP × ∂_bP|`. -/
theorem gauss_area_element (n1 n2 n3 : V3 ℝ) (a b : ℝ)
    (hF : 0 < dot (gaussF n1 n2 n3 a b) (gaussF n1 n2 n3 a b)) :
    ∃ Pa Pb : V3 ℝ,
      (HasDerivAt (fun t => (nrm Real.sqrt (gaussF n1 n2 n3 (a + t) b)).x) Pa.x 0 ∧
       HasDerivAt (fun t => (nrm Real.sqrt (gaussF n1 n2 n3 (a + t) b)).y) Pa.y 0 ∧
       HasDerivAt (fun t => (nrm Real.sqrt (gaussF n1 n2 n3 (a + t) b)).z) Pa.z 0) ∧
      (HasDerivAt (fun t => (nrm Real.sqrt (gaussF n1 n2 n3 a (b + t))).x) Pb.x 0 ∧
       HasDerivAt (fun t => (nrm Real.sqrt (gaussF n1 n2 n3 a (b + t))).y) Pb.y 0 ∧
       HasDerivAt (fun t => (nrm Real.sqrt (gaussF n1 n2 n3 a (b + t))).z) Pb.z 0) ∧
      jacGauss Real.sqrt n1 n2 n3 a b = Real.sqrt (dot (cross Pa Pb) (cross Pa Pb)) := by
  refine ⟨tang Real.sqrt (gaussF n1 n2 n3 a b) (gaussDa n1 n2 b), tang Real.sqrt (gaussF n1 n2 n3 a b) (gaussDb n1 n2 n3 a), ?_, ?_, ?_⟩
  · simp only [gaussF_partial_a]; exact normalize_hasDerivAt _ _ hF
  · simp only [gaussF_partial_b]; exact normalize_hasDerivAt _ _ hF
  · rw [jacGauss_unfold, jacCore_is_cross_norm]

/-- non-vacuity: the octant triangle at its centroid meets the hypothesis `F ≠ 0`, its triple product
    is 1, and the density there is `1 / (2 |F|³)` with `|F|² = 1/3` -/
theorem octant_centroid :
    0 < dot (baryF (⟨1, 0, 0⟩ : V3 ℝ) ⟨0, 1, 0⟩ ⟨0, 0, 1⟩ (1/3) (1/3)) (baryF ⟨1, 0, 0⟩ ⟨0, 1, 0⟩ ⟨0, 0, 1⟩ (1/3) (1/3))
    ∧ triple (⟨1, 0, 0⟩ : V3 ℝ) ⟨0, 1, 0⟩ ⟨0, 0, 1⟩ = 1 := by
  constructor <;> norm_num [dot, baryF, triple, cross]

example : 0 < dot (baryF (⟨1, 0, 0⟩ : V3 ℝ) ⟨0, 1, 0⟩ ⟨0, 0, 1⟩ (1/3) (1/3)) (baryF ⟨1, 0, 0⟩ ⟨0, 1, 0⟩ ⟨0, 0, 1⟩ (1/3) (1/3))
    ∧ triple (⟨1, 0, 0⟩ : V3 ℝ) ⟨0, 1, 0⟩ ⟨0, 0, 1⟩ = 1 :=
  octant_centroid
example : jacBary Real.sqrt ⟨1, 0, 0⟩ ⟨0, 1, 0⟩ ⟨0, 0, 1⟩ (1/3) (1/3) = 1 / (2 * Real.sqrt (1/3) ^ 3) := by
  rw [jacBary_closed _ _ _ _ _ octant_centroid.1, octant_centroid.2]
  norm_num [dot, baryF]
example : 0 < dot (gaussF (⟨1, 0, 0⟩ : V3 ℝ) ⟨0, 1, 0⟩ ⟨0, 0, 1⟩ (1/2) (1/2)) (gaussF ⟨1, 0, 0⟩ ⟨0, 1, 0⟩ ⟨0, 0, 1⟩ (1/2) (1/2)) := by
  norm_num [dot, gaussF]

/-! ## T. The algorithm, for all inputs -/

section locality
variable {K : Type}

/-- **locality**: the area reported for face `f` is a function of the coordinates of exactly the
    first `n_nodes_per_face[f]` entries of its row — no padding, no other face, no numbering. -/
theorem area_face_local {P : Type} (area : List P → K) (coord : Int → P) (t : Table) (N : List Nat)
    (f : Nat) (hf : f < t.length) (hN : f < N.length) :
    (allAreas area coord t N)[f]? = some (area ((t[f].take N[f]).map coord)) := by
  unfold allAreas
  have hz : (t.zip N)[f]? = some (t[f], N[f]) :=
    List.getElem?_zip_eq_some.mpr ⟨List.getElem?_eq_getElem hf, List.getElem?_eq_getElem hN⟩
  rw [List.getElem?_map, hz]
  rfl

/-- **node renumbering**: renumber the nodes by ANY map `σ` (the coordinate arrays are permuted
    accordingly: `coord' (σ i) = coord i` on the real corners) — every area is unchanged. -/
theorem area_renumber {P : Type} (area : List P → K) (coord coord' : Int → P) (σ : Int → Int)
    (t : Table) (N : List Nat)
    (h : ∀ p ∈ t.zip N, ∀ i ∈ p.1.take p.2, coord' (σ i) = coord i) :
    allAreas area coord' (t.map (List.map σ)) N = allAreas area coord t N := by
  unfold allAreas
  rw [List.zip_map_left, List.map_map]
  refine List.map_congr_left fun p hp => ?_
  simp only [Function.comp, Prod.map_fst, Prod.map_snd, id]
  rw [← List.map_take, List.map_map]
  exact congrArg area (List.map_congr_left (h p hp))

/-- **face reordering**: listing the faces in another order (any selection `idx` of face
    numbers, e.g. a permutation) lists the same areas in that order. -/
theorem area_face_order {P : Type} (area : List P → K) (coord : Int → P) (t : Table) (N : List Nat)
    (idx : List Nat) (hlen : t.length = N.length) (hidx : ∀ f ∈ idx, f < t.length) :
    allAreas area coord (idx.map fun f => t.getD f []) (idx.map fun f => N.getD f 0)
      = idx.map fun f => (allAreas area coord t N).getD f (area []) := by
  rw [allAreas, List.zip_map', List.map_map]
  refine List.map_congr_left fun f hf => ?_
  have h1 : f < t.length := hidx f hf
  have h2 : f < N.length := hlen ▸ h1
  simp only [Function.comp, List.getD_eq_getElem?_getD, area_face_local area coord t N f h1 h2,
    List.getElem?_eq_getElem h1, List.getElem?_eq_getElem h2, Option.getD_some]

end locality

section algebra
variable {K : Type} [Field K]

/-- **areas of a face and of the two pieces cut off by a diagonal from its start corner add up,
    exactly** — for every rule table and every corner list (the computed area is a fan sum, and fan
    sums split: `Area.fan_split`, which holds for ANY triangle functional).  For a diagonal between
    two other corners the start corner has to be moved first, which costs at most the quadrature
    error (`fan_shift_approx`). -/
theorem area_split (sqrt : K → K) (q : Quad K) (a d : V3 K) (l₁ l₂ : List (V3 K)) :
    faceArea sqrt q (a :: (l₁ ++ d :: l₂))
      = faceArea sqrt q (a :: (l₁ ++ [d])) + faceArea sqrt q (a :: d :: l₂) := by
  simp only [faceArea_eq_fan]
  exact fan_split _ a d l₁ l₂

end algebra

section shift
variable {α K : Type} [AddCommGroup K]

/-- hypothesis on a triangle functional `T` (think: exact spherical area of the triangle): symmetric
    under cyclic relabelling -/
def Cyclic (T : α → α → α → K) : Prop := ∀ p q s, T p q s = T q s p
/-- … and the two triangulations of a quadrilateral `p q s u` agree — required only for quadruples
    that occur IN ORDER in the polygon `l` -/
def FlipOn (T : α → α → α → K) (l : List α) : Prop :=
  ∀ p q s u, [p, q, s, u].Sublist l → T p q s + T p s u = T p q u + T q s u

/-- **start-corner independence**: for any `T` that is cyclically symmetric and satisfies the
    quadrilateral flip identity on the polygon, the fan from corner `b` (the list rotated by
    one) equals the fan from corner `a`. -/
theorem fan_shift (T : α → α → α → K) (hc : Cyclic T) (a b : α) (r : List α) (hr : r ≠ [])
    (hflip : FlipOn T (b :: r ++ [a])) : fan T (b :: r ++ [a]) = fan T (a :: b :: r) := by
  cases r with
  | nil => exact absurd rfl hr
  | cons c rest =>
    rw [fan_cons3 T a b c]
    simp only [List.cons_append] at hflip ⊢
    clear hr
    induction rest generalizing c with
    | nil => rw [List.nil_append, fan_three, fan_two, add_zero, hc a b c]
    | cons d rest ih =>
      -- the flip identity on `b, c, d, a`, read from `a`
      have h := hflip b c d a
        (.cons_cons b (.cons_cons c (.cons_cons d (List.sublist_append_right rest [a]))))
      rw [← hc a b d, ← hc a b c, ← hc a c d] at h
      rw [List.cons_append, fan_cons3, ih d fun p q s u hs =>
          hflip p q s u (hs.trans (.cons_cons b (List.sublist_cons_self c _))),
        fan_cons3 T a c d, ← add_assoc, ← add_assoc, h]

end shift

section approx
variable {α K : Type} [Field K] [LinearOrder K] [IsStrictOrderedRing K]

/-- **start-corner dependence of a quadrature is bounded by its accuracy**: if the per-triangle
    quadrature `Q` is within `ε` of a functional `T` with cyclic symmetry and the flip identity
    (the exact area), then moving the start corner changes the `n`-gon's computed area by at
    most `2(n−2)ε`. -/
theorem fan_shift_approx (Q T : α → α → α → K) (ε : K) (hc : Cyclic T) (a b : α) (r : List α)
    (hr : r ≠ []) (hflip : FlipOn T (b :: r ++ [a]))
    (h : ∀ p ∈ a :: b :: r, ∀ q ∈ a :: b :: r, ∀ s ∈ a :: b :: r, |Q p q s - T p q s| ≤ ε) :
    |fan Q (b :: r ++ [a]) - fan Q (a :: b :: r)| ≤ 2 * (r.length : K) * ε := by
  have hp := List.perm_append_singleton a (b :: r)
  have h1 := fan_close Q T ε (b :: r ++ [a]) fun p hp' q hq s hs =>
    h p (hp.mem_iff.mp hp') q (hp.mem_iff.mp hq) s (hp.mem_iff.mp hs)
  have h2 := fan_close Q T ε (a :: b :: r) h
  rw [hp.length_eq, fan_shift T hc a b r hr hflip] at h1
  rw [abs_sub_comm] at h2
  -- triangle inequality through `fan T (a :: b :: r)`
  have h3 := (abs_sub_le _ (fan T (a :: b :: r)) _).trans (add_le_add h1 h2)
  rwa [← two_mul, ← mul_assoc] at h3

end approx

/-- twice the signed area of a planar lattice triangle: a non-trivial `T` that is cyclic and
    satisfies the flip identity on every list, so the hypotheses of `fan_shift` are satisfiable;
    its fan is (twice) the polygon's area whatever the start corner -/
def planarT (p q s : Int × Int) : Int :=
  (q.1 - p.1) * (s.2 - p.2) - (q.2 - p.2) * (s.1 - p.1)

example : Cyclic planarT ∧ (∀ l, FlipOn planarT l) ∧
    fan planarT [(0, 0), (2, 0), (3, 2), (0, 2)] = 10 ∧
    fan planarT [(2, 0), (3, 2), (0, 2), (0, 0)] = 10 := by
  refine ⟨fun p q s => by unfold planarT; ring, fun l p q s u _ => by unfold planarT; ring, ?_, ?_⟩ <;>
    decide

section algebra
variable {K : Type} [Field K]

theorem tang_apply {R : M3 K} (h : R.Orthogonal) (sqrt : K → K) (F A : V3 K) :
    tang sqrt (R.apply F) (R.apply A) = R.apply (tang sqrt F A) := by
  rw [tang_eq, tang_eq, dot_apply h, proj_apply h, M3.apply_smul]

/-- `jacCore` is the norm of the cross product of two vectors that turn with `R`, and that norm is
    a function of dot products (Lagrange) -/
theorem jacCore_apply {R : M3 K} (h : R.Orthogonal) (sqrt : K → K) (F A B : V3 K) :
    jacCore sqrt (R.apply F) (R.apply A) (R.apply B) = jacCore sqrt F A B := by
  rw [jacCore_is_cross_norm, jacCore_is_cross_norm, tang_apply h, tang_apply h, lagrange_identity,
    lagrange_identity, dot_apply h, dot_apply h, dot_apply h]

/-- the point and the two tangent vectors are linear combinations of the corners, so they turn
    with `R` -/
theorem jacBary_apply {R : M3 K} (h : R.Orthogonal) (sqrt : K → K) (n1 n2 n3 : V3 K) (dA dB : K) :
    jacBary sqrt (R.apply n1) (R.apply n2) (R.apply n3) dA dB = jacBary sqrt n1 n2 n3 dA dB := by
  simp only [jacBary_unfold, baryF_eq, ← M3.apply_smul, ← M3.apply_vadd, ← M3.apply_vsub,
    jacCore_apply h]

theorem jacGauss_apply {R : M3 K} (h : R.Orthogonal) (sqrt : K → K) (n1 n2 n3 : V3 K) (dA dB : K) :
    jacGauss sqrt (R.apply n1) (R.apply n2) (R.apply n3) dA dB = jacGauss sqrt n1 n2 n3 dA dB := by
  simp only [jacGauss_unfold, gaussF_eq, gaussDa, gaussDb, ← M3.apply_smul, ← M3.apply_vadd,
    ← M3.apply_vsub, jacCore_apply h]

theorem terms_apply {R : M3 K} (h : R.Orthogonal) (sqrt : K → K) (q : Quad K) (n1 n2 n3 : V3 K) :
    terms sqrt q (R.apply n1) (R.apply n2) (R.apply n3) = terms sqrt q n1 n2 n3 := by
  cases q with
  | tri rows => simp only [terms, jacBary_apply h]
  | gauss rows => simp only [terms, jacGauss_apply h]

/-- **rigid rotation (any orthogonal map `R`, `RᵀR = I`) of the corners leaves the computed
    area unchanged** — for every rule table, every corner list, every `sqrt`. -/
theorem area_rotation {R : M3 K} (h : R.Orthogonal) (sqrt : K → K) (q : Quad K)
    (corners : List (V3 K)) :
    faceArea sqrt q (corners.map R.apply) = faceArea sqrt q corners := by
  unfold faceArea
  rw [fanTris_map, List.flatMap_map]
  simp only [terms_apply h]

/-- `area_rotation` for a whole grid: rotating every node changes no area. -/
theorem area_rotation_grid {R : M3 K} (h : R.Orthogonal) (sqrt : K → K) (q : Quad K)
    (xyz : Int → V3 K) (t : Table) (N : List Nat) :
    computeXYZ 3 sqrt q (fun i => R.apply (xyz i)) t N = computeXYZ 3 sqrt q xyz t N := by
  rw [computeXYZ_three, computeXYZ_three, ← allAreas_map]
  simp only [area_rotation h]

/-- a non-trivial orthogonal map (rotation by `atan(4/3)` about `z`) exists over ℚ -/
example : (⟨3/5, -4/5, 0, 4/5, 3/5, 0, 0, 0, 1⟩ : M3 ℚ).Orthogonal := by
  constructor <;> norm_num

/-- **spherical input = Cartesian input** (repaired code, `dim = 3`): `compute_face_areas(latlon=True)`
    on lon/lat equals `compute_face_areas(latlon=False)` on the Cartesian coordinates of the same
    nodes. -/
theorem area_latlon_eq_xyz (sqrt sin cos : K → K) (d2r : K) (q : Quad K) (lonlat : Int → K × K)
    (t : Table) (N : List Nat) :
    computeLatLon sqrt sin cos d2r q lonlat t N
      = computeXYZ 3 sqrt q (fun i => xyzOfLonLatDeg sin cos d2r (lonlat i)) t N := by
  rw [computeXYZ_three]
  exact allAreas_map _ _ _ t N

theorem terms_planar (sqrt : K → K) (h0 : sqrt 0 = 0) (q : Quad K) {n1 n2 n3 : V3 K}
    (z1 : n1.z = 0) (z2 : n2.z = 0) (z3 : n3.z = 0) : ∀ x ∈ terms sqrt q n1 n2 n3, x = 0 := by
  have ht : triple n1 n2 n3 = 0 := by
    simp only [triple, dot, cross, z1, z2, z3]
    ring
  intro x hx
  cases q with
  | tri rows =>
    obtain ⟨r, _, rfl⟩ := List.mem_map.mp hx
    rw [jacBary_unfold, jacCore_of_triple_eq_zero sqrt (by rw [triple_bary, ht]), h0, zero_div,
      mul_zero]
  | gauss rows =>
    simp only [terms, List.mem_flatMap, List.mem_map] at hx
    obtain ⟨r, _, r', _, rfl⟩ := hx
    rw [jacGauss_unfold, jacCore_of_triple_eq_zero sqrt (by rw [triple_gauss, ht, mul_zero]), h0,
      mul_zero]

/-- **the code as it stands** (`dim = 2` also for Cartesian input, grid.py:1527): `z` is replaced by
    `x·0`, all three vectors of the Jacobian are planar and the area of EVERY face is `√0 = 0`. -/
theorem asis_cartesian_area_zero (sqrt : K → K) (h0 : sqrt 0 = 0) (q : Quad K)
    (corners : List (V3 K)) : faceArea sqrt q (corners.map (cartCorner 2)) = 0 := by
  unfold faceArea
  rw [fanTris_map, List.flatMap_map]
  refine sumL_eq_zero _ fun x hx => ?_
  obtain ⟨tr, _, hx⟩ := List.mem_flatMap.mp hx
  exact terms_planar sqrt h0 q (cartCorner_two_z _) (cartCorner_two_z _) (cartCorner_two_z _) x hx

end algebra

/-- the one-point rule on the octant triangle gives a strictly positive area over ℝ -/
theorem octant_onepoint_area_pos :
    0 < faceArea Real.sqrt (.tri [((1:ℝ)/3, (1:ℝ)/3, (1:ℝ)/3, 1)]) [⟨1, 0, 0⟩, ⟨0, 1, 0⟩, ⟨0, 0, 1⟩] := by
  have hu := Real.sqrt_pos.mpr octant_centroid.1
  show 0 < 0 + 1 * jacBary Real.sqrt ⟨1, 0, 0⟩ ⟨0, 1, 0⟩ ⟨0, 0, 1⟩ (1/3) (1/3)
  rw [jacBary_closed _ _ _ _ _ octant_centroid.1, octant_centroid.2]
  positivity

/-- the code as it stands returns 0 for the octant triangle on Cartesian input
    (`asis_cartesian_area_zero`) where all three coordinates give a positive area: **the as-is code violates
    "does not depend on whether spherical or Cartesian corner coordinates are used"**
    (finding `C05/latlon-vs-xyz/z-dropped`, repaired by `fixes/C05-cartesian-dim.patch`). -/
theorem asis_violates_input_independence :
    ∃ (q : Quad ℝ) (corners : List (V3 ℝ)),
      faceArea Real.sqrt q (corners.map (cartCorner 2)) ≠ faceArea Real.sqrt q (corners.map (cartCorner 3)) := by
  refine ⟨.tri [((1:ℝ)/3, (1:ℝ)/3, (1:ℝ)/3, 1)], [⟨1, 0, 0⟩, ⟨0, 1, 0⟩, ⟨0, 0, 1⟩], ?_⟩
  rw [asis_cartesian_area_zero Real.sqrt Real.sqrt_zero, cartCorner_three, List.map_id]
  exact octant_onepoint_area_pos.ne

/-- the regenerated tables as tables over a field -/
def triTable (K : Type) [Field K] (o : Nat) : Quad K :=
  .tri ((tri o).map fun r : TriRow =>
    ((r.g0 : K) / (DEN : K), (r.g1 : K) / (DEN : K), (r.g2 : K) / (DEN : K), (r.w : K) / (DEN : K)))
def gaussTable (K : Type) [Field K] (n : Nat) : Quad K :=
  .gauss ((gauss n).map fun r : GaussRow => ((r.1 : K) / (DEN : K), (r.2 : K) / (DEN : K)))

section order
variable {K : Type} [Field K] [LinearOrder K] [IsStrictOrderedRing K]

def WeightsNonneg : Quad K → Prop
  | .tri rows => ∀ r ∈ rows, 0 ≤ r.2.2.2
  | .gauss rows => ∀ r ∈ rows, 0 ≤ r.2

/-- **the area of a face is never negative**: for every corner list (any number of corners, any
    position, degenerate or not), every table with non-negative weights, every `sqrt ≥ 0`. -/
theorem area_nonneg (sqrt : K → K) (hs : ∀ x, 0 ≤ sqrt x) (q : Quad K) (hq : WeightsNonneg q)
    (corners : List (V3 K)) : 0 ≤ faceArea sqrt q corners := by
  unfold faceArea
  refine sumL_nonneg _ fun x hx => ?_
  obtain ⟨tr, _, hx⟩ := List.mem_flatMap.mp hx
  cases q with
  | tri rows =>
    simp only [terms, List.mem_map] at hx
    obtain ⟨r, hr, rfl⟩ := hx
    exact mul_nonneg (hq r hr) (div_nonneg (hs _) (by norm_num))
  | gauss rows =>
    simp only [terms, List.mem_flatMap, List.mem_map] at hx
    obtain ⟨r, hr, r', hr', rfl⟩ := hx
    exact mul_nonneg (mul_nonneg (hq r hr) (hq r' hr')) (hs _)

theorem triTable_nonneg (o : Nat) (ho : o ∈ TRI_ORDERS) : WeightsNonneg (triTable K o) := by
  intro r hr
  obtain ⟨r0, hr0, rfl⟩ := List.mem_map.mp hr
  exact div_nonneg (Int.cast_nonneg (le_of_lt (tri_weights_pos o ho r0 hr0))) (Nat.cast_nonneg _)

theorem gaussTable_nonneg (n : Nat) (hn : n ∈ GAUSS_ORDERS) : WeightsNonneg (gaussTable K n) := by
  intro r hr
  obtain ⟨r0, hr0, rfl⟩ := List.mem_map.mp hr
  exact div_nonneg (Int.cast_nonneg (le_of_lt (gauss_weights_pos n hn r0 hr0))) (Nat.cast_nonneg _)

end order

/-- **non-negativity for every rule the code has today, over ℝ with the real square root**:
    both families, every supported order, every face. -/
theorem area_nonneg_tables (corners : List (V3 ℝ)) :
    (∀ o ∈ TRI_ORDERS, 0 ≤ faceArea Real.sqrt (triTable ℝ o) corners) ∧
    (∀ n ∈ GAUSS_ORDERS, 0 ≤ faceArea Real.sqrt (gaussTable ℝ n) corners) :=
  ⟨fun o ho => area_nonneg Real.sqrt Real.sqrt_nonneg _ (triTable_nonneg o ho) corners,
   fun n hn => area_nonneg Real.sqrt Real.sqrt_nonneg _ (gaussTable_nonneg n hn) corners⟩

section cache
variable {A : Type}

/-- the parameter combination an operation reports -/
def reportOf (dflt tdflt : Params) : Op → Params
  | .read => dflt
  | .compute p => p
  | .computeDefault => dflt
  | .total r o => (r, o, true)
  | .totalDefault => tdflt

theorem runOps_inv (fresh : Params → A) (dflt tdflt : Params) (s : St A)
    (hs : s.ds = none ∨ s.ds = some (fresh dflt)) (ops : List Op) :
    runOps fresh dflt tdflt s ops = ops.map fun op => fresh (reportOf dflt tdflt op) := by
  induction ops generalizing s with
  | nil => rfl
  | cons op ops ih =>
    -- one step reports the fresh value and leaves `ds` empty or at the fresh default
    have h : (step fresh dflt tdflt s op).2 = fresh (reportOf dflt tdflt op) ∧
        ((step fresh dflt tdflt s op).1.ds = none ∨
          (step fresh dflt tdflt s op).1.ds = some (fresh dflt)) := by
      cases op with
      | read =>
        rcases hs with h | h
        · simp [step, reportOf, h]
        · simp [step, reportOf, h]
      | _ => exact ⟨rfl, hs⟩
    rw [runOps, List.map_cons, h.1, ih _ h.2]

/-- **history independence of every area call**: whatever sequence of `face_areas`,
    `compute_face_areas(…)`, `calculate_total_face_area(…)` calls is made on a new grid, each call
    reports the fresh computation for its own parameters. -/
theorem cache_history (fresh : Params → A) (dflt tdflt : Params) (ops : List Op) :
    runOps fresh dflt tdflt { ds := none, last := none } ops
      = ops.map fun op => fresh (reportOf dflt tdflt op) :=
  runOps_inv fresh dflt tdflt _ (Or.inl rfl) ops

/-- **the cached `face_areas` equal a fresh default computation**, at any point of any history -/
theorem cache_eq_fresh (fresh : Params → A) (dflt tdflt : Params) (ops : List Op) (i : Nat)
    (h : ops[i]? = some Op.read) :
    (runOps fresh dflt tdflt { ds := none, last := none } ops)[i]? = some (fresh dflt) := by
  rw [cache_history, List.getElem?_map, h]
  rfl

example : runOps (fun p => p) (1, 4, true) (1, 4, true) { ds := none, last := none }
    [.compute (0, 7, true), .read, .total 0 3, .read] = [(0, 7, true), (1, 4, true), (0, 3, true), (1, 4, true)] := by
  decide

end cache

/-! ### the default arguments (regenerated from `inspect.signature` on every run) -/

/-- **the default rule and order name a supported table**, so the accuracy clauses "with the default
    rule" are about a rule whose exactness theorems above apply; `calculate_total_face_area` uses
    the same default as `compute_face_areas`. -/
theorem default_rule_supported :
    ((Gen.Defaults.compute_face_areas_quadrature_rule = "triangular" ∧
        Gen.Defaults.compute_face_areas_order.toNat ∈ TRI_ORDERS) ∨
     (Gen.Defaults.compute_face_areas_quadrature_rule = "gaussian" ∧
        Gen.Defaults.compute_face_areas_order.toNat ∈ GAUSS_ORDERS)) ∧
    0 < Gen.Defaults.compute_face_areas_order ∧
    Gen.Defaults.calculate_total_face_area_quadrature_rule = Gen.Defaults.compute_face_areas_quadrature_rule ∧
    Gen.Defaults.calculate_total_face_area_order = Gen.Defaults.compute_face_areas_order := by
  decide

end UxVerif.C05
