/-
  C09 — Subsets and cross-sections are faithful, fully functional restrictions.

  Theorems about the model `Model/Slice.lean` (transcription of `uxarray/grid/slice.py` as
  repaired by fixes/C09-*.patch, of the selectors of `uxarray/subset/grid_accessor.py`, of the
  latitude scan of `uxarray/grid/intersections.py` and of `UxDataArray._slice_from_grid`), for
  source grids, index lists, data arrays and request histories of ANY size.

  §1–2  `slice_meets_spec` = `slice_faces_exact` (exact restriction) + `slice_functional` (C02's
        specification of the subset's own travelling edge tables); `slice_eq_fresh`.
  §3    inclusive node / edge selections; `slice_nodes_meets_spec`, `slice_edges_meets_spec`.
  §4    `data_aligned`, `data_aligned_rank`.
  §5    the latitude scan under any schedule (`mask_order_irrelevant`, `crosssec_iff`), the exact
        clause (`facesAt_meets_crossExact`, `crossExact_latitude_domain`).
  §6    `box_iff`, `circle_iff`, `knn_spec`.
  §7    request histories (`Base`, `Coh`, `Step` in `Lemmas/SliceHist.lean`): `view_coh`, `slice_step`,
        `slice_history_independent`, `built_grid_end_to_end`; `edge_face_distances`
        (`efd_history_independent`, `efd_transport_sub` for any sub-mesh of C03's incidence transport);
        backing, source-supplied edge tables.  `Props/C09x.lean` discharges the hypotheses about the
        subset that §7 still takes.
  §8    non-vacuity examples; what /repo did before the repair (`asis_*`: proved counterexamples).
-/
import UxVerif.Lemmas.Slice
import UxVerif.Lemmas.SliceHist
import UxVerif.Lemmas.SliceKnn
import UxVerif.Lemmas.C03Transport
import UxVerif.Props.C02
import UxVerif.Props.C03
import Mathlib.Algebra.Order.Field.Basic

namespace UxVerif.C09
open UxVerif UxVerif.Slice UxVerif.Edges

/-! ## 1. the restriction is exact -/

theorem faces_recorded (s : Src) (idx : List Nat) : FacesRecorded idx (sliceFaces s idx).obs := rfl

/-- **corner positions**: read through the recorded node indices, face `i` of the subset IS
    source face `idx[i]` — same corners, same order, same padding.  No hypothesis on the source. -/
theorem corners_exact (s : Src) (idx : List Nat) : CornersExact s idx (sliceFaces s idx).obs :=
  rows_back_remap s.t idx

/-- **nodes**: exactly the corners of the selected faces, each once -/
theorem nodes_exact (s : Src) (idx : List Nat) : NodesExact s idx (sliceFaces s idx).obs :=
  sel_exact _

/-- the recorded node and edge indices are ascending (`np.unique`) -/
theorem recorded_ascending (s : Src) (idx : List Nat) :
    (sliceFaces s idx).nodeIdx.Pairwise (· < ·) ∧ (sliceFaces s idx).edgeIdx.Pairwise (· < ·) :=
  ⟨sorted_sel _, sorted_sel _⟩

/-- **face-edge rows**: read through the recorded edge indices, row `i` is the source's row -/
theorem faceEdges_restrict (s : Src) (idx : List Nat) :
    FaceEdgesRestrict s idx (sliceFaces s idx).obs :=
  rows_back_remap s.FE idx

section Exact
variable {n w : Nat} {s : Src} {idx : List Nat}

/-- **edges**: exactly the edges of the selected faces, each once, with the source's end nodes -/
theorem edges_restrict (h : Pre n w s idx) : EdgesRestrict s idx (sliceFaces s idx).obs := by
  obtain ⟨h1, h2, h3⟩ := sel_exact (gather s.FE idx)
  refine ⟨h1, h2, h3, List.length_map _, fun k hk => ?_⟩
  have hk' : k < (edgeSel s idx).length := hk
  obtain ⟨a1, a2⟩ := edge_nodes_selected h (List.getElem_mem hk')
  have hEN : (sliceFaces s idx).EN.getD k (FILL, FILL)
      = mapPair (remap (nodeSel s idx)) (edgeAt s.EN (edgeSel s idx)[k]) := by
    rw [sliceFaces_EN, getD_lt _ (by rwa [List.length_map]), List.getElem_map]
  show sortPair (mapPair (back (nodeSel s idx)) ((sliceFaces s idx).EN.getD k (FILL, FILL)))
    = sortPair (edgeAt s.EN ((edgeSel s idx).getD k FILL))
  rw [hEN, getD_lt _ hk', mapPair_back_remap a1 a2]

/-- **C09, restriction clauses.** -/
theorem slice_faces_exact (h : Pre n w s idx) : Restrict s idx (sliceFaces s idx).obs :=
  ⟨faces_recorded s idx, corners_exact s idx, nodes_exact s idx, edges_restrict h,
   faceEdges_restrict s idx⟩

end Exact

/-! ## 2. the subset is a functional grid -/

section Functional
variable {n w : Nat} {s : Src} {idx : List Nat}

theorem slice_std (h : Pre n w s idx) :
    StdForm (sliceFaces s idx).nodeIdx.length w (sliceFaces s idx).t := by
  intro r' hr'
  obtain ⟨f, hf, rfl⟩ := mem_sub_t hr'
  exact stdRow_map remap_fixes_fill (h.stdRow hf)
    (fun x hx => remap_bound (corner_selected hf hx) (faceOf_ne_fill _ x hx))

theorem sub_faceEdges_ok (h : Pre n w s idx) :
    FaceEdgesOK (sliceFaces s idx).t w (sliceFaces s idx).EN (sliceFaces s idx).FE := by
  refine ⟨(List.length_map _).trans (List.length_map _).symm, fun i hi => ?_⟩
  have hi' : i < idx.length := by rwa [sliceFaces_t, List.length_map] at hi
  have hf : idx[i] ∈ idx := List.getElem_mem hi'
  have hrow := h.feRow hf
  rw [rowAt_sub_t hi', rowAt_sub_FE hi']
  refine ⟨(List.length_map _).trans hrow.1, fun j hj => ?_⟩
  rw [entry_map (remap_fill _), faceOf_map remap_fixes_fill, List.length_map]
  split
  · rename_i hjk
    obtain ⟨hsel, _, hseg⟩ := slot_edge h hf hjk
    exact ⟨_, rowSegs_map_get remap_fixes_fill hseg, _,
      getI?_map_remap _ hsel (mem_sel.mp hsel).2, rfl⟩
  · rename_i hjk
    rw [hrow.fill (Nat.le_of_not_lt hjk) hj, remap_fill]

/-- every row of the subset's edge table is a boundary segment of a subset face -/
theorem sub_edges_sound (h : Pre n w s idx) :
    EdgesSound (sliceFaces s idx).t (sliceFaces s idx).EN := by
  intro e' he'
  obtain ⟨e, he, rfl⟩ := List.mem_map.mp he'
  obtain ⟨h1, h2⟩ := edge_nodes_selected h he
  obtain ⟨f, hf, j, hj, rfl⟩ := edge_slot h he
  exact ⟨remap_ne_fill (mem_sel.mp h1).2, remap_ne_fill (mem_sel.mp h2).2, _,
    List.mem_map.mpr ⟨f, hf, rfl⟩,
    List.mem_of_getElem? (rowSegs_map_get remap_fixes_fill (slot_edge h hf hj).2.2)⟩

/-- every boundary segment of a subset face is a row -/
theorem sub_edges_complete (h : Pre n w s idx) :
    EdgesComplete (sliceFaces s idx).t (sliceFaces s idx).EN := by
  intro r' hr' sg' hsg'
  obtain ⟨f, hf, rfl⟩ := mem_sub_t hr'
  obtain ⟨j, hj, rfl⟩ := List.getElem_of_mem hsg'
  have hjk : j < (faceOf (rowAt s.t f)).length := by
    rwa [length_rowSegs, faceOf_map remap_fixes_fill, List.length_map] at hj
  obtain ⟨hsel, _, hseg⟩ := slot_edge h hf hjk
  have hget := rowSegs_map_get (remap_fixes_fill (s := nodeSel s idx)) hseg
  rw [List.getElem?_eq_getElem hj] at hget
  rw [Option.some.inj hget]
  exact List.mem_map.mpr ⟨_, List.mem_map.mpr ⟨_, hsel, rfl⟩, rfl⟩

/-- no row twice: renumbering is injective on the selected nodes, and the source lists no edge
    twice -/
theorem sub_edges_once (h : Pre n w s idx) : EdgesOnce (sliceFaces s idx).EN := by
  unfold EdgesOnce
  rw [sliceFaces_EN, List.map_map]
  refine List.Nodup.map_on ?_ (nodup_sel _)
  intro a ha b hb heq
  exact edgesOnce_inj h.once (edge_valid h ha) (edge_valid h hb)
    (mapPair_inj_sort (S := (· ∈ nodeSel s idx))
      (fun x y hx hy => remap_inj (Or.inr hx) (Or.inr hy))
      (edge_nodes_selected h ha) (edge_nodes_selected h hb) heq)

/-- **C09, functional clause**: the edge tables that travel with the subset meet C02's
    specification OF THE SUBSET — so every table derived from them on request (C03) is a table of
    the restricted mesh. -/
theorem slice_functional (h : Pre n w s idx) : Functional w (sliceFaces s idx).obs :=
  ⟨sub_edges_sound h, sub_edges_complete h, sub_edges_once h, sub_faceEdges_ok h,
   C02.nPerFace_ok (slice_std h)⟩

/-- **C09 (main theorem, faces).**  For every source whose own tables are right and every valid
    duplicate-free index list, the model of `_slice_face_indices` meets the specification. -/
theorem slice_meets_spec (h : Pre n w s idx) : Slice.Spec s w idx (sliceFaces s idx).obs :=
  ⟨slice_faces_exact h, slice_functional h⟩

/-- should the edges of the subset ever be rebuilt from its faces, C02's theorem applies -/
theorem fresh_build_meets_spec (h : Pre n w s idx) :
    Edges.Spec (sliceFaces s idx).t w (Edges.build (sliceFaces s idx).t) :=
  C02.build_meets_spec (slice_std h)

end Functional

/-! ### the travelling edge tables ARE the tables a fresh construction on the subset would give -/

section Fresh
variable {n w : Nat} {s : Src} {idx : List Nat}

/-- the re-indexed edge rows come in the order of `np.unique(axis=0)`: the selected edges ascend, the
    source's rows are sorted, and renumbering is monotone on the selected nodes -/
theorem sub_EN_sorted (h : Pre n w s idx) (hb : s.EN = edges s.t) :
    SortedBy pairLt (sliceFaces s idx).EN := by
  rw [sliceFaces_EN, SortedBy, List.pairwise_map]
  refine (sorted_sel _).imp_of_mem ?_
  intro a b ha hb' hab
  obtain ⟨a0, al, ea⟩ := getI?_eq_some.mp (edge_valid h ha)
  obtain ⟨b0, bl, eb⟩ := getI?_eq_some.mp (edge_valid h hb')
  have hsrt : SortedBy pairLt s.EN := hb ▸ C02.edges_sorted s.t
  have := List.pairwise_iff_getElem.mp hsrt _ _ al bl
    ((Int.toNat_lt_toNat (Int.lt_of_le_of_lt a0 hab)).mpr hab)
  rw [ea, eb] at this
  exact pairLt_remap (edge_nodes_selected h ha) (edge_nodes_selected h hb') this

theorem sub_EN_pairs_sorted (h : Pre n w s idx) (hb : s.EN = edges s.t) :
    ∀ x ∈ (sliceFaces s idx).EN, sortPair x = x := by
  intro x hx
  obtain ⟨e, he, rfl⟩ := List.mem_map.mp hx
  obtain ⟨_, hl, hE⟩ := getI?_eq_some.mp (edge_valid h he)
  have hm : edgeAt s.EN e ∈ edges s.t := by
    rw [← hE, ← hb]; exact List.getElem_mem hl
  obtain ⟨r, _, hs⟩ := C02.edge_is_seg h.std _ hm
  obtain ⟨h1, h2⟩ := edge_nodes_selected h he
  exact sortPair_eq_self_iff.mpr
    (remap_le h1 h2 (sortPair_eq_self_iff.mp (rowSegs_sorted r _ hs)))

/-- for a source whose edges were derived by uxarray, the subset's re-indexed
    `edge_node_connectivity` is exactly the table `_build_edge_node_connectivity` gives on the
    subset's faces — same rows, same order -/
theorem sub_EN_eq_fresh (h : Pre n w s idx) (hb : s.EN = edges s.t) :
    (sliceFaces s idx).EN = edges (sliceFaces s idx).t := by
  apply sortedBy_ext pairLt_strictTotal (sub_EN_sorted h hb) (C02.edges_sorted _)
  intro x
  have hstd := slice_std h
  constructor
  · intro hx
    obtain ⟨_, _, r', hr', hseg⟩ := sub_edges_sound h x hx
    rw [sub_EN_pairs_sorted h hb x hx] at hseg
    exact C02.seg_is_edge hstd r' hr' x hseg
  · intro hx
    obtain ⟨r', hr', hseg⟩ := C02.edge_is_seg hstd x hx
    obtain ⟨y, hy, hyx⟩ := List.mem_map.mp (sub_edges_complete h r' hr' x hseg)
    rw [sub_EN_pairs_sorted h hb y hy] at hyx
    exact hyx ▸ hy

theorem sub_FE_eq_fresh (h : Pre n w s idx) (hb : s.EN = edges s.t) :
    (sliceFaces s idx).FE = faceEdges (sliceFaces s idx).t := by
  have hstd := slice_std h
  refine FaceEdgesOK.unique (C02.edges_once hstd) ?_ (C02.faceEdges_ok hstd)
  rw [← sub_EN_eq_fresh h hb]; exact sub_faceEdges_ok h

/-- **slicing commutes with edge construction**: whether the edges are carried over from the source
    or derived afresh on the subset, the subset has the same edge tables -/
theorem slice_eq_fresh (h : Pre n w s idx) (hb : s.EN = edges s.t) :
    (⟨(sliceFaces s idx).EN, (sliceFaces s idx).FE, nNodesPerFace (sliceFaces s idx).t⟩ : Edges.Out)
      = Edges.build (sliceFaces s idx).t := by
  unfold Edges.build
  rw [← sub_EN_eq_fresh h hb, ← sub_FE_eq_fresh h hb]

end Fresh

/-! ## 3. node / edge selections are inclusive -/

theorem touching_nodes (NF : Table) (ind : List Nat) : Touching NF ind (facesOfNodes NF ind) :=
  touching_sel NF ind

theorem touching_edges (EF : List (Int × Int)) (ind : List Nat) :
    Touching (pairRows EF) ind (facesOfEdges EF ind) := touching_sel _ ind

theorem faces_ascending (rows : Table) (ind : List Nat) :
    (sel (gather rows ind)).Pairwise (· < ·) := sorted_sel _

/-- with a correct `node_face_connectivity` (C03): face `f` is in the subset iff one of the
    selected nodes is a corner of `f` -/
theorem nodes_inclusive {n : Nat} {t NF : Table} (hNF : Incidence.NodeFaceOK n t NF)
    {ind : List Nat} (hind : ∀ v ∈ ind, v < n) (f : Nat) (hf : f < t.length) :
    Int.ofNat f ∈ facesOfNodes NF ind ↔ ∃ v ∈ ind, Int.ofNat v ∈ Incidence.real (rowAt t f) :=
  (ofNat_mem_sel_gather NF ind f).trans
    (exists_congr fun v => and_congr_right fun hv => hNF.2.1 v (hind v hv) f hf)

theorem nodes_faces_valid {n : Nat} {t NF : Table} (hNF : Incidence.NodeFaceOK n t NF)
    {ind : List Nat} (hind : ∀ v ∈ ind, v < n) :
    ∀ x ∈ facesOfNodes NF ind, 0 ≤ x ∧ x < t.length :=
  forall_mem_sel_gather fun v hv => hNF.2.2 _ (rowAt_mem (hNF.1 ▸ hind v hv))

theorem edges_faces_valid {FE : Table} {N : List Nat} {nEdge : Nat} {EF : List (Int × Int)}
    (hEF : Incidence.EdgeFaceOK FE N nEdge EF) {ind : List Nat} (hind : ∀ e ∈ ind, e < nEdge) :
    ∀ x ∈ facesOfEdges EF ind, 0 ≤ x ∧ x < FE.length :=
  forall_mem_sel_gather fun e he x hx =>
    (hEF.2 e (hind e he)).2.2.1 x (rowAt_pairRows (hEF.1 ▸ hind e he) ▸ hx)

/-- with a correct `edge_face_connectivity` (C03): face `f` is in the subset iff one of the
    selected edges is an edge of `f` -/
theorem edges_inclusive {FE : Table} {N : List Nat} {nEdge : Nat} {EF : List (Int × Int)}
    (hEF : Incidence.EdgeFaceOK FE N nEdge EF) {ind : List Nat} (hind : ∀ e ∈ ind, e < nEdge)
    (f : Nat) (hf : f < FE.length) :
    Int.ofNat f ∈ facesOfEdges EF ind ↔ ∃ e ∈ ind, Int.ofNat e ∈ Incidence.faceEdgesOf FE N f :=
  (ofNat_mem_sel_gather _ ind f).trans (exists_congr fun e => and_congr_right fun he => by
    rw [rowAt_pairRows (hEF.1 ▸ hind e he), List.mem_pair]
    exact (hEF.2 e (hind e he)).2.2.2 f hf)

/-- a duplicate-free list of valid face numbers is a valid request, so everything proved for face
    selections holds for node and edge selections -/
theorem selection_pre {n w : Nat} {s : Src} (hstd : StdForm n w s.t)
    (hspec : Edges.Spec s.t w ⟨s.EN, s.FE, nNodesPerFace s.t⟩) {faces : List Int}
    (hnd : faces.Nodup) (hv : ∀ x ∈ faces, 0 ≤ x ∧ x < s.t.length) :
    Pre n w s (faces.map Int.toNat) := by
  refine ⟨hstd, hspec, ?_, hnd.map_on ?_⟩
  · intro f hf
    obtain ⟨x, hx, rfl⟩ := List.mem_map.mp hf
    exact (Int.toNat_lt (hv x hx).1).mpr (hv x hx).2
  · intro a ha b hb hab
    rw [← Int.toNat_of_nonneg (hv a ha).1, ← Int.toNat_of_nonneg (hv b hb).1, hab]

theorem slice_nodes_meets_spec {n w : Nat} {s : Src} {NF : Table} {ind : List Nat}
    (hstd : StdForm n w s.t) (hspec : Edges.Spec s.t w ⟨s.EN, s.FE, nNodesPerFace s.t⟩)
    (hNF : Incidence.NodeFaceOK n s.t NF) (hind : ∀ v ∈ ind, v < n) :
    Slice.Spec s w ((facesOfNodes NF ind).map Int.toNat) (sliceNodes s NF ind).obs :=
  slice_meets_spec (selection_pre hstd hspec (nodup_sel _) (nodes_faces_valid hNF hind))

theorem slice_edges_meets_spec {n w : Nat} {s : Src} {EF : List (Int × Int)} {ind : List Nat}
    (hstd : StdForm n w s.t) (hspec : Edges.Spec s.t w ⟨s.EN, s.FE, nNodesPerFace s.t⟩)
    (hEF : Incidence.EdgeFaceOK s.FE (nNodesPerFace s.t) s.EN.length EF)
    (hind : ∀ e ∈ ind, e < s.EN.length) :
    Slice.Spec s w ((facesOfEdges EF ind).map Int.toNat) (sliceEdges s EF ind).obs :=
  slice_meets_spec (selection_pre hstd hspec (nodup_sel _)
    (fun x hx => hspec.2.2.2.1.1 ▸ edges_faces_valid hEF hind x hx))

/-! ## 4. data stay attached -/

/-- rank 1: entry `i` of the sliced data is the source entry at the recorded index `ri[i]` -/
theorem data_aligned_get {α} (d : List α) (ri : List Nat) (i : Nat) (hi : i < ri.length) :
    (iselLast d ri)[i]? = some d[ri[i]]? := by
  rw [getElem?_iselLast, List.getElem?_eq_getElem hi, Option.map_some]

/-- **any rank**: at every leading multi-index `ks`, entry `i` of the sliced array is the source
    entry at `(ks, ri[i])` (`none` on both sides when an index is out of range) -/
theorem data_aligned_rank {α} (r : Nat) (d : NArr α r) (ri : List Nat) (ks : List Nat) (i : Nat) :
    (atN r (iselN r d ri) ks i).join = (ri[i]?).bind (fun j => atN r d ks j) := by
  induction r generalizing ks with
  | zero =>
    -- `NArr α 0` is `List α` by definition: give `d` that type
    revert d
    intro (d : List α)
    show ((iselLast d ri)[i]?).join = _
    rw [getElem?_iselLast]
    cases ri[i]? <;> rfl
  | succ r ih =>
    cases ks with
    | nil => exact (Option.bind_fun_none _).symm
    | cons k ks =>
      revert d
      intro (d : List (NArr α r))
      simp only [atN, iselN, List.getElem?_map]
      cases d[k]? with
      | none => exact (Option.bind_fun_none _).symm
      | some x => exact ih x ks

/-- `DataAligned` (the predicate the driver decides on the implementation's arrays) is met by
    in-range indexing with any default: the decidable form of `data_aligned_get` for `iselLast` -/
theorem data_aligned (ri : List Nat) (src : List (List Int)) (n : Nat)
    (hrows : ∀ d ∈ src, d.length = n) (hri : ∀ j ∈ ri, j < n) :
    DataAligned ri src (src.map (fun d => ri.map (fun j => d.getD j 0))) := by
  refine ⟨List.length_map _, fun l hl => ?_⟩
  rw [getD_lt [] hl, getD_lt [] (by rwa [List.length_map]), List.getElem_map, iselLast,
    List.map_map]
  refine List.map_congr_left fun j hj => ?_
  have : j < (src[l]).length := by rw [hrows _ (List.getElem_mem hl)]; exact hri j hj
  rw [Function.comp_apply, getD_lt 0 this, List.getElem?_eq_getElem this]

/-! ## 5. the latitude scan -/

section Scan
variable {K : Type} [Sub K] [Mul K] [LT K] [DecidableLT K] [OfNat K 0]

/-- **schedules**: the mask does not depend on the order in which the `prange` iterations run -/
theorem mask_order_irrelevant (c : K) (Z : List (K × K)) {o₁ o₂ : List Nat} (h : o₁.Perm o₂) :
    maskLoop c Z o₁ = maskLoop c Z o₂ :=
  List.ext_getElem? fun k => by
    rw [maskLoop_get, maskLoop_get, decide_eq_decide.mpr (h.filter _).mem_iff]

theorem crosssec_iff_crosses (c : K) (Z : List (K × K)) {order : List Nat}
    {FE : Table} {N : List Nat} {EF : List (Int × Int)}
    (hEF : Incidence.EdgeFaceOK FE N Z.length EF) (h : order.Perm (List.range Z.length))
    (f : Nat) (hf : f < FE.length) :
    Int.ofNat f ∈ facesAt c Z order EF ↔
      ∃ e z, Int.ofNat e ∈ Incidence.faceEdgesOf FE N f ∧ Z[e]? = some z ∧ crosses c z = true := by
  rw [facesAt, edges_inclusive hEF (crossingEdges_lt c Z order) f hf]
  refine exists_congr fun e => ?_
  rw [crossingEdges_iff c Z h, exists_and_left, and_comm]

end Scan

/-- the sign test is "end nodes strictly on opposite sides of the parallel", in any ordered field -/
theorem crosses_iff {K : Type} [Ring K] [LinearOrder K] [IsStrictOrderedRing K] (c : K) (z : K × K) :
    crosses c z = true ↔ (z.1 < c ∧ c < z.2) ∨ (z.2 < c ∧ c < z.1) := by
  simp only [crosses, decide_eq_true_eq, mul_neg_iff, sub_pos, sub_neg]
  rw [or_comm, and_comm (a := c < z.1)]

/-- **C09, cross-section clause**: `f` is selected iff it has an edge whose end nodes lie strictly
    on opposite sides of the parallel — for every schedule of the parallel loop -/
theorem crosssec_iff {K : Type} [Field K] [LinearOrder K] [IsStrictOrderedRing K]
    (c : K) (Z : List (K × K)) {order : List Nat}
    {FE : Table} {N : List Nat} {EF : List (Int × Int)}
    (hEF : Incidence.EdgeFaceOK FE N Z.length EF) (h : order.Perm (List.range Z.length))
    (f : Nat) (hf : f < FE.length) :
    Int.ofNat f ∈ facesAt c Z order EF ↔
      ∃ e z, Int.ofNat e ∈ Incidence.faceEdgesOf FE N f ∧ Z[e]? = some z ∧
        ((z.1 < c ∧ c < z.2) ∨ (z.2 < c ∧ c < z.1)) := by
  simp only [crosssec_iff_crosses c Z hEF h f hf, crosses_iff]

/-! ### the exact clause the driver evaluates on the implementation's doubles -/

/-- a node exactly on the parallel is on neither side: such an edge is not crossing -/
theorem on_parallel_not_crossing {K : Type} [Field K] [LinearOrder K] [IsStrictOrderedRing K] (c : K) (z : K × K)
    (h : z.1 = c ∨ z.2 = c) : crosses c z = false := by
  refine Bool.eq_false_iff.mpr fun hc => ?_
  rcases (crosses_iff c z).mp hc with ⟨h1, h2⟩ | ⟨h1, h2⟩
  · exact h.elim h1.ne h2.ne'
  · exact h.elim h2.ne' h1.ne

/-- **the model of the scan meets the exact clause** (`CrossExact`, the predicate the driver decides
    on the implementation's face list whenever the compared doubles are the implementation's own): for
    every schedule of the parallel loop, with correct `edge_face_connectivity` -/
theorem facesAt_meets_crossExact {K : Type} [Field K] [LinearOrder K] [IsStrictOrderedRing K]
    (c : K) (Z : List (K × K)) {order : List Nat} {FE : Table} {N : List Nat} {EF : List (Int × Int)}
    (hEF : Incidence.EdgeFaceOK FE N Z.length EF) (h : order.Perm (List.range Z.length)) :
    CrossExact c Z FE N (facesAt c Z order EF) := by
  refine ⟨nodup_sel _, fun f hf => ?_, fun g hg => ?_⟩
  · rw [faceHas_iff, crosssec_iff c Z hEF h f hf]
    simp only [strictlyOpposite_iff]
  · obtain ⟨h0, hg⟩ := edges_faces_valid hEF (crossingEdges_lt c Z order) g hg
    exact ⟨h0, (Int.toNat_lt h0).mpr hg⟩

/-- the exact clause is not vacuous: a triangle standing ON the parallel with its third corner above
    (edge on the parallel) and one touching it by a corner are NOT selected, a crossing triangle is -/
example : CrossExact (0 : Int) [(0, 0), (0, 5), (0, 5), (0, 5), (5, 5), (-3, 4), (4, 4), (4, -3)]
    [[0, 1, 2], [3, 4, 2], [5, 6, 7]] [3, 3, 3] [2] := by decide +kernel
example : ¬ CrossExact (0 : Int) [(0, 0), (0, 5), (0, 5), (0, 5), (5, 5), (-3, 4), (4, 4), (4, -3)]
    [[0, 1, 2], [3, 4, 2], [5, 6, 7]] [3, 3, 3] [0, 2] := by decide +kernel

/-! ### the latitude domain: the clause may be decided on the source's node latitudes -/

/-- **latitude domain ⇔ z domain.**  Let `f` preserve and reflect the strict order on a set `S` of values (the
    exact sine of an angle in degrees on [-90°, 90°]).  Then the cross-section clause decided on the node
    LATITUDES and the queried latitude is the clause decided on their images (`z = f lat`, `z_constant = f c`):
    a node whose latitude EQUALS the queried one is on neither side, whatever a grid derives for its `z`. -/
theorem crossExact_latitude_domain {K : Type} [Field K] [LinearOrder K] (f : K → K) (S : K → Prop)
    (hf : ∀ x y, S x → S y → (x < y ↔ f x < f y))
    (c : K) (hc : S c) (Z : List (K × K)) (hZ : ∀ z ∈ Z, S z.1 ∧ S z.2)
    (FE : Table) (N : List Nat) (faces : List Int) :
    CrossExact (f c) (Z.map (fun z => (f z.1, f z.2))) FE N faces ↔ CrossExact c Z FE N faces := by
  have key : faceHas (strictlyOpposite (f c)) (Z.map (fun z => (f z.1, f z.2))) FE N
      = faceHas (strictlyOpposite c) Z FE N := by
    funext g
    refine faceHas_map_congr (fun z hz => ?_) FE N g
    obtain ⟨s1, s2⟩ := hZ z hz
    simp only [strictlyOpposite, ← hf _ _ s1 hc, ← hf _ _ hc s2, ← hf _ _ s2 hc, ← hf _ _ hc s1]
  unfold CrossExact
  rw [key]

/-- latitude domain: nodes at 10° are ON the parallel 10° — the two faces that only touch it are not
    selected, the one crossing it is (same instance as the z-domain example above, in degrees) -/
example : CrossExact (10 : Int) [(10, 10), (10, 20), (10, 20), (10, 20), (20, 20), (5, 15), (15, 15), (15, 5)]
    [[0, 1, 2], [3, 4, 2], [5, 6, 7]] [3, 3, 3] [2] := by decide +kernel

/-! ## 6. region selectors as predicates on the reference points -/

section Sel
variable {K : Type} [LT K] [LE K] [DecidableLT K] [DecidableLE K]

/-- **box**: element `i` is selected iff its reference point passes the longitude and latitude
    tests -/
theorem box_iff (b : Box K) (lon lat : List K) (i : Nat) :
    i ∈ boxSel b lon lat ↔ ∃ x y, lon[i]? = some x ∧ lat[i]? = some y ∧ inLon b x = true ∧ inLat b y = true := by
  rw [boxSel, List.mem_filter, List.mem_range, inBoxAt]
  constructor
  · rintro ⟨_, h⟩
    split at h
    · next x y hx hy => exact ⟨x, y, hx, hy, Bool.and_eq_true_iff.mp h⟩
    · cases h
  · rintro ⟨x, y, hx, hy, h⟩
    rw [hx, hy]
    exact ⟨(List.getElem?_eq_some_iff.mp hx).1, Bool.and_eq_true_iff.mpr h⟩

theorem box_ascending (b : Box K) (lon lat : List K) : (boxSel b lon lat).Pairwise (· < ·) :=
  List.pairwise_lt_range.filter _

omit [LT K] [DecidableLT K] in
/-- **circle**: element `i` is selected iff its distance is at most `r` -/
theorem circle_iff (d : List K) (r : K) (i : Nat) :
    i ∈ circleSel d r ↔ ∃ x, d[i]? = some x ∧ x ≤ r := by
  rw [circleSel, List.mem_filter, List.mem_range]
  constructor
  · rintro ⟨hi, h⟩
    rw [List.getElem?_eq_getElem hi] at h
    exact ⟨d[i], List.getElem?_eq_getElem hi, of_decide_eq_true h⟩
  · rintro ⟨x, hx, hr⟩
    rw [hx]
    exact ⟨(List.getElem?_eq_some_iff.mp hx).1, decide_eq_true hr⟩

end Sel

/-- what the longitude test of a box means: the open interval, or — when the box spans the
    antimeridian — the two half-open pieces `[-180, lon1) ∪ [lon0, 180)`, i.e. for a valid longitude
    everything outside the gap `[lon1, lon0)` -/
theorem inLon_iff {K : Type} [LinearOrder K] (b : Box K) (x : K)
    (hx : b.m180 ≤ x ∧ x < b.p180) :
    inLon b x = true ↔ if b.lon1 < b.lon0 then ¬ (b.lon1 ≤ x ∧ x < b.lon0) else (b.lon0 < x ∧ x < b.lon1) := by
  unfold inLon
  split
  · simp only [Bool.or_eq_true, Bool.and_eq_true, decide_eq_true_eq, hx.1, hx.2, true_and, and_true,
      not_and_or, not_le, not_lt]
  · simp only [Bool.and_eq_true, decide_eq_true_eq]

/-! ### k nearest -/

section Knn
variable {K : Type} [LinearOrder K]

/-- **k nearest**: `k` (or all) distinct valid elements, none of them farther than an element
    that was left out -/
theorem knn_spec (d : List K) (k : Nat) :
    (knnSel d k).Nodup ∧ (knnSel d k).length = min k d.length ∧ (∀ i ∈ knnSel d k, i < d.length) ∧
    ∀ i ∈ knnSel d k, ∀ j, j < d.length → j ∉ knnSel d k →
      ∀ x y, d[i]? = some x → d[j]? = some y → x ≤ y := by
  obtain ⟨l, hl, hk⟩ := knnSel_eq_take d k
  refine ⟨?_, ?_, ?_, ?_⟩
  · rw [hk]
    exact (List.take_sublist k l).nodup (hl.nodup_iff.mpr List.nodup_range)
  · rw [hk, List.length_take, hl.length_eq, List.length_range]
  · intro i hi
    exact List.mem_range.mp (hl.mem_iff.mp ((List.take_sublist k l).subset (hk ▸ hi)))
  · intro i hi j _ hj x y hx hy
    obtain ⟨p, hp, rfl⟩ := List.mem_map.mp hi
    have hpx : p = (x, p.2) := by
      have := (mem_sortByDist_zipIdx d p.1 p.2).mp (List.mem_of_mem_take hp)
      rw [hx] at this
      exact Prod.ext (Option.some.inj this).symm rfl
    rw [hpx] at hp
    exact pairwise_take_rel (sortByDist_sorted d.zipIdx) k hp ((mem_sortByDist_zipIdx d y j).mpr hy)
      fun hq => hj (List.mem_map.mpr ⟨(y, j), hq, rfl⟩)

end Knn

/-! ## 7. histories: whatever was materialised on the source before, the subset answers every
    request, with the same tables (`Base`, `Coh`, `Step`: `Lemmas/SliceHist.lean`) -/

/-! ### coherent grids -/

/-- **a coherent grid reports its base's tables, whatever is requested first** -/
theorem view_coh {B : Base} {g : State} (h : Coh B g) (order : List Var) :
    g.view order = some B.view := by
  obtain ⟨g0, h0, s0⟩ := runHist_step h order
  have ⟨s1, e1⟩ := getEN_step s0.coh
  obtain ⟨g2, h2, s2, _, e2⟩ := getFE_step s1.coh
  have ⟨s3, e3⟩ := getNPF_step s2.coh
  have ⟨s4, e4⟩ := getNF_step s3.coh
  obtain ⟨g5, h5, s5, e5⟩ := getEF_step s4.coh
  obtain ⟨g6, h6, s6, e6⟩ := getFF_step s5.coh
  obtain ⟨g7, h7, _, e7⟩ := getHoles_step s6.coh
  unfold State.view
  refine Option.bind_eq_some_iff.mpr ⟨g0, h0, ?_⟩
  refine Option.bind_eq_some_iff.mpr ⟨getEN g0, rfl, ?_⟩
  refine Option.bind_eq_some_iff.mpr ⟨g2, h2, ?_⟩
  refine Option.bind_eq_some_iff.mpr ⟨getNPF g2, rfl, ?_⟩
  refine Option.bind_eq_some_iff.mpr ⟨getNF (getNPF g2), rfl, ?_⟩
  refine Option.bind_eq_some_iff.mpr ⟨g5, h5, ?_⟩
  refine Option.bind_eq_some_iff.mpr ⟨g6, h6, ?_⟩
  refine Option.bind_eq_some_iff.mpr ⟨g7, h7, ?_⟩
  simp only [e1, e2, e3, e4, e5, e6, e7, Option.getD_some]
  rfl

/-- a freshly constructed grid (no derived variable yet) with rectangular faces is coherent -/
theorem coh_fresh (w : Nat) (t : Table) (hw : ∀ r ∈ t, r.length = w) :
    Coh { w := w, t := t, EN := edges t, FE := reshape w (faceEdges t).flatten } { w := w, t := t } := by
  refine { w := rfl, t := rfl, en := Or.inl rfl, fe := Or.inl rfl, npf := Or.inl rfl, nf := Or.inl rfl,
           ef := Or.inl rfl, ff := Or.inl rfl, holes := Or.inl rfl,
           ready := Or.inr (Or.inl ⟨rfl, rfl, rfl, ?_, Or.inl rfl⟩) }
  show (faceEdges t).flatten.length = t.length * w
  rw [flatten_length_const _ w (faceEdges_rows t w hw), faceEdges, List.length_map]

/-- a grid that ships its own edge tables is coherent with them -/
theorem coh_supplied (w : Nat) (t : Table) (EN : List (Int × Int)) (FE : Table) :
    Coh { w := w, t := t, EN := EN, FE := FE } { w := w, t := t, en := some EN, fe := some FE } :=
  { w := rfl, t := rfl, en := Or.inr rfl, fe := Or.inr rfl, npf := Or.inl rfl, nf := Or.inl rfl,
    ef := Or.inl rfl, ff := Or.inl rfl, holes := Or.inl rfl, ready := Or.inl ⟨rfl, rfl⟩ }

/-- a grid that ships `edge_node_connectivity` only (rows in ANY order, each row in ANY orientation) is
    coherent with it and with the faces' edges looked up in it -/
theorem coh_supplied_en (w : Nat) (t : Table) (EN : List (Int × Int)) (FE : Table)
    (h : lookupFE t EN = some FE) :
    Coh { w := w, t := t, EN := EN, FE := FE } { w := w, t := t, en := some EN } :=
  { w := rfl, t := rfl, en := Or.inr rfl, fe := Or.inl rfl, npf := Or.inl rfl, nf := Or.inl rfl,
    ef := Or.inl rfl, ff := Or.inl rfl, holes := Or.inl rfl, ready := Or.inr (Or.inr ⟨rfl, rfl, rfl, h⟩) }

/-! ### slicing a coherent grid -/

/-- the base of the subset -/
def Base.slice (B : Base) (idx : List Nat) : Base :=
  let u := sliceFaces { t := B.t, EN := B.EN, FE := B.FE } idx
  { w := B.w, t := u.t, EN := u.EN, FE := u.FE }

/-- the corner counts travel with the faces (a face number outside the table has no corners on
    either side) -/
theorem slice_N (B : Base) (idx : List Nat) :
    idx.map (fun f => B.N.getD f 0) = (B.slice idx).N := by
  show _ = (idx.map _).map nNodesRow
  rw [List.map_map]
  refine List.map_congr_left fun f _ => ?_
  rw [Function.comp_apply, nNodesRow_map remap_fixes_fill]
  exact nNodesPerFace_getD B.t f

theorem slice_eq {B : Base} {g : State} (h : Coh B g) (idx : List Nat) :
    ∃ g1, getFE g = some g1 ∧ Step B g g1 ∧
      g.slice idx = some
        { w := B.w, t := (B.slice idx).t, backing := g1.backing, en := some (B.slice idx).EN,
          fe := some (B.slice idx).FE, npf := g1.npf.map fun N => idx.map fun f => N.getD f 0,
          efd := g1.efd.map (travelEFD true idx (edgeSel ⟨B.t, B.EN, B.FE⟩ idx)),
          recd := some (nodeSel ⟨B.t, B.EN, B.FE⟩ idx, idx, edgeSel ⟨B.t, B.EN, B.FE⟩ idx) } := by
  obtain ⟨g1, h1, s1, en1, fe1⟩ := getFE_step h
  have hsrc : g1.src = ⟨B.t, B.EN, B.FE⟩ := by rw [State.src, s1.coh.t, en1, fe1]; rfl
  refine ⟨g1, h1, s1, ?_⟩
  simp only [State.slice, State.sliceWith, h1, Option.bind_eq_bind, Option.bind_some, Option.pure_def,
    getEN_of_some en1, hsrc, s1.coh.w, Bool.false_eq_true, if_false, Bool.not_false]
  rfl

/-- the transport condition: the source's distances, masked to the edges whose two faces were both
    selected and renumbered, ARE the distances the subset derives from its own `edge_face_connectivity`.
    Proved from `Pre` below (`efd_transport`, `efdTransport_of_pre`) and in `Props/C09x.lean`; also
    decided by the driver on every generated case (`C09.efdtransport`) as a model-correspondence test. -/
def EFDTransport (B : Base) (idx : List Nat) : Prop :=
  travelEFD true idx (edgeSel { t := B.t, EN := B.EN, FE := B.FE } idx) B.EFD = (B.slice idx).EFD

instance (B : Base) (idx : List Nat) : Decidable (EFDTransport B idx) := by
  unfold EFDTransport; infer_instance

/-- **slicing a coherent grid gives a coherent grid** whose base is the slice of the base: nothing
    stale travels (repaired slicer); a coherent `edge_face_distances` stays coherent when the masked
    travelling value is the subset's own -/
theorem slice_step {B : Base} {g : State} (h : Coh B g) (idx : List Nat) :
    ∃ g', g.slice idx = some g' ∧ Coh (B.slice idx) g' ∧
      (EFDTransport B idx → EfdOK B g → EfdOK (B.slice idx) g') := by
  obtain ⟨g1, _, s1, hs⟩ := slice_eq h idx
  refine ⟨_, hs, ?_, fun hT he => ?_⟩
  · exact { w := rfl, t := rfl, en := Or.inr rfl, fe := Or.inr rfl,
            npf := slice_N B idx ▸ s1.coh.npf.map _,
            nf := Or.inl rfl, ef := Or.inl rfl, ff := Or.inl rfl, holes := Or.inl rfl,
            ready := Or.inl ⟨rfl, rfl⟩ }
  · exact (congrArg (optIs _) hT).mp ((s1.efd he).map _)

/-- **C09, histories.**  For every coherent source, EVERY history of requests on it before slicing
    and EVERY order of requests on the subset afterwards: nothing raises and the subset reports the
    tables determined by the sliced base alone. -/
theorem slice_history_independent {B : Base} {g : State} (h : Coh B g) {idx : List Nat}
    (hidx : ∀ f ∈ idx, f < B.t.length) (hist order : List Var) :
    ((runHist g hist).bind (fun g => g.slice idx)).bind (fun u => u.view order)
      = some (B.slice idx).view := by
  -- `hidx` is not needed here or below: a face number past the table yields the empty row on both sides
  obtain ⟨g1, h1, s1⟩ := runHist_step h hist
  obtain ⟨u, h2, c2, _⟩ := slice_step s1.coh idx
  rw [h1, Option.bind_some, h2, Option.bind_some]
  exact view_coh c2 order

/-- the incidence tables the subset reports are C03's builders run on the subset's own tables, so
    C03's theorem applies whenever its precondition holds for the subset (`pre_slice` in
    `Props/C09x.lean` proves that precondition, with the node count `nodeIdx.length`, from `Pre`) -/
theorem subset_incidence (B : Base) (idx : List Nat)
    (hpre : Incidence.Pre (nNodeOf (B.slice idx).t) (B.slice idx).t (B.slice idx).FE (B.slice idx).N
      (B.slice idx).EN.length) :
    Incidence.Spec (nNodeOf (B.slice idx).t) (B.slice idx).t (B.slice idx).FE (B.slice idx).N
      (B.slice idx).EN.length
      { nodeFace := (B.slice idx).view.nf, edgeFace := (B.slice idx).view.ef,
        faceFace := (B.slice idx).view.ff, holes := (B.slice idx).view.holes } := by
  -- the projections of `Base.view` are reduced first: left folded, the unifier unfolds the builders
  dsimp only [Base.view]
  exact C03.build_meets_spec hpre

/-- **C09 for a grid built from its faces, end to end**: for EVERY standard-form face table, EVERY
    history of requests before slicing, EVERY valid duplicate-free face selection and EVERY order of
    requests afterwards, nothing raises, the subset reports the tables of the sliced base, and those
    tables meet the specification (exact restriction + C02 on the subset) -/
theorem built_grid_end_to_end {n w : Nat} {t : Table} (hstd : StdForm n w t) {idx : List Nat}
    (hidx : ∀ f ∈ idx, f < t.length) (hnd : idx.Nodup) (hist order : List Var) :
    ∃ v, ((runHist { w := w, t := t } hist).bind (fun g => g.slice idx)).bind (fun u => u.view order) = some v ∧
      v.en = (sliceFaces ⟨t, edges t, faceEdges t⟩ idx).EN ∧
      v.fe = (sliceFaces ⟨t, edges t, faceEdges t⟩ idx).FE ∧
      v.npf = nNodesPerFace (sliceFaces ⟨t, edges t, faceEdges t⟩ idx).t ∧
      Slice.Spec ⟨t, edges t, faceEdges t⟩ w idx (sliceFaces ⟨t, edges t, faceEdges t⟩ idx).obs ∧
      (⟨v.en, v.fe, v.npf⟩ : Edges.Out) = Edges.build (sliceFaces ⟨t, edges t, faceEdges t⟩ idx).t := by
  have hrows : ∀ r ∈ t, r.length = w := fun r hr => (hstd r hr).1
  have hw : faceEdges t ≠ [] → 0 < w := by
    intro hne
    cases t with
    | nil => exact absurd rfl hne
    | cons r t =>
      have hs := hstd r List.mem_cons_self
      exact hs.1 ▸ Nat.lt_of_lt_of_le hs.2.1 (faceOf_length_le _)
  have hpre : Pre n w ⟨t, edges t, faceEdges t⟩ idx := ⟨hstd, C02.build_meets_spec hstd, hidx, hnd⟩
  have hv := slice_history_independent (coh_fresh w t hrows) hidx hist order
  -- the fresh grid's base holds the reshaped `inverse_indices`: that is `faceEdges t`
  rw [reshape_flatten _ w hw (faceEdges_rows t w hrows)] at hv
  exact ⟨_, hv, rfl, rfl, rfl, slice_meets_spec hpre, slice_eq_fresh hpre rfl⟩

/-! ### a variable that is NOT a per-element invariant: `edge_face_distances` -/

theorem viewEFD_coh {B : Base} {g : State} (h : Coh B g) (he : EfdOK B g) (order : List Var) :
    g.viewEFD order = some B.EFD := by
  obtain ⟨g1, h1, s1⟩ := runHist_step h order
  obtain ⟨g2, h2, _, e2⟩ := getEFD_step s1.coh
  unfold State.viewEFD
  refine Option.bind_eq_some_iff.mpr ⟨g1, h1, ?_⟩
  refine Option.bind_eq_some_iff.mpr ⟨g2, h2, ?_⟩
  exact congrArg (fun o => some (o.getD [])) (e2 (s1.efd he))

/-- **C09, histories, for the neighbour-dependent variable**: whatever was requested on the source before
    slicing (in particular: `edge_face_distances` itself or not) and on the subset afterwards, the subset
    reports the distances it derives from its OWN edge-face table -/
theorem efd_history_independent {B : Base} {g : State} (h : Coh B g) (he : EfdOK B g) {idx : List Nat}
    (hT : EFDTransport B idx) (hist order : List Var) :
    ((runHist g hist).bind (fun g => g.slice idx)).bind (fun u => u.viewEFD order)
      = some (B.slice idx).EFD := by
  obtain ⟨g1, h1, s1⟩ := runHist_step h hist
  obtain ⟨u, h2, c2, e2⟩ := slice_step s1.coh idx
  rw [h1, Option.bind_some, h2, Option.bind_some]
  exact viewEFD_coh c2 (e2 hT (s1.efd he)) order

/-- the two faces listed for an edge are distinct (no face contains the same edge twice) -/
def DistinctFaces (EF : List (Int × Int)) : Prop := ∀ p ∈ EF, p.1 ≠ p.2

instance (EF : List (Int × Int)) : Decidable (DistinctFaces EF) := by unfold DistinctFaces; infer_instance

section SubMesh
open Incidence
variable {FE FE' : Table} {N N' : List Nat} {nEdge nEdge' : Nat} {idx : List Nat} {es : List Int}
  {ren : Int → Int}

/-- `EFDTransport`'s equation for any sub-mesh of C03's incidence transport, from C03's specification
    of both edge-face tables -/
theorem efd_transport_sub (hS : SubMesh FE N FE' N' nEdge' idx es ren)
    (hv : ∀ e ∈ es, 0 ≤ e ∧ e.toNat < nEdge) {EF EF' : List (Int × Int)}
    (hEF : EdgeFaceOK FE N nEdge EF) (hEF' : EdgeFaceOK FE' N' nEdge' EF')
    (hD : DistinctFaces EF) (hD' : DistinctFaces EF') :
    travelEFD true idx es (efdOf EF) = efdOf EF' := by
  rw [travelEFD_true]
  apply List.ext_getElem
  · rw [List.length_map, efdOf, List.length_map, hEF'.1, hS.es_len]
  · intro k hk1 hk2
    have hk : k < es.length := by rwa [List.length_map] at hk1
    obtain ⟨he0, hel⟩ := hv _ (List.getElem_mem hk)
    have helEF : es[k].toNat < EF.length := hEF.1.symm ▸ hel
    have hkE' : k < nEdge' := hS.es_len ▸ hk
    have hkEF' : k < EF'.length := hEF'.1.symm ▸ hkE'
    obtain ⟨_, _, _, hpm⟩ := hEF.2 _ hel
    obtain ⟨hq1, _, hqv, hqm⟩ := hEF'.2 k hkE'
    rw [getD_lt _ helEF] at hpm
    rw [getD_lt _ hkEF'] at hq1 hqv hqm
    -- `p := EF[es[k]]` lists the source faces of edge `k`, `q := EF'[k]` the subset's; `M` is `subMesh_mem_iff`
    have key := carried_eq hS.idx_nodup (hD _ (List.getElem_mem helEF)) (hD' _ (List.getElem_mem hkEF'))
      hq1 (hS.faces ▸ hqv) (fun i hi => by
        rw [hqm i (hS.faces ▸ hi), subMesh_mem_iff hS hi hk, hpm idx[i] (hS.idx_lt _ (List.getElem_mem hi)),
          Int.ofNat_eq_natCast, Int.toNat_of_nonneg he0])
    have hL : getI? (efdOf EF) es[k]
        = some (if EF[es[k].toNat].2 = FILL then none else some (sortPair EF[es[k].toNat])) :=
      getI?_eq_some.mpr ⟨he0, by rwa [efdOf, List.length_map], List.getElem_map _⟩
    rw [List.getElem_map, hL, efdOf_getElem, ← key]
    by_cases hp2 : EF[es[k].toNat].2 = FILL
    · rw [if_pos hp2, carried_of_fill hp2]; rfl
    · rw [if_neg hp2]
      exact carried_sortPair idx _

end SubMesh

section OfPre
variable {n w : Nat} {s : Src} {idx : List Nat}

/-- the subset is a sub-mesh of the source in the sense of C03's incidence transport -/
theorem subMesh (h : Pre n w s idx) :
    Incidence.SubMesh s.FE (nNodesPerFace s.t) (sliceFaces s idx).FE (nNodesPerFace (sliceFaces s idx).t)
      (sliceFaces s idx).EN.length idx (edgeSel s idx) (remap (edgeSel s idx)) where
  faces := List.length_map _
  idx_nodup := h.nodup
  idx_lt := fun f hf => h.feLen ▸ h.lt hf
  es_len := (List.length_map _).symm
  es_nodup := nodup_sel _
  rows := fun i hi => faceEdgesOf_sub s hi
  ren_es := fun k hk => remap_getElem (nodup_sel _) (fill_not_mem_sel _) hk
  covered := by
    intro f hf x hx
    obtain ⟨j, hj, rfl⟩ := (mem_faceEdgesOf_src h hf).mp hx
    exact (slot_edge h hf hj).1
  used := by
    intro e he
    obtain ⟨f, hf, j, hj, hent⟩ := edge_slot h he
    exact ⟨f, hf, (mem_faceEdgesOf_src h hf).mpr ⟨j, hj, hent⟩⟩

/-- **`EFDTransport`'s equation follows from C03's specification of the source's and of the subset's
    `edge_face_connectivity`, when the two faces of an edge are distinct** -/
theorem efd_transport (h : Pre n w s idx) {EF EF' : List (Int × Int)}
    (hEF : Incidence.EdgeFaceOK s.FE (nNodesPerFace s.t) s.EN.length EF)
    (hEF' : Incidence.EdgeFaceOK (sliceFaces s idx).FE (nNodesPerFace (sliceFaces s idx).t)
      (sliceFaces s idx).EN.length EF')
    (hD : ∀ p ∈ EF, p.1 ≠ p.2) (hD' : ∀ p ∈ EF', p.1 ≠ p.2) :
    travelEFD true idx (edgeSel s idx) (efdOf EF) = efdOf EF' :=
  efd_transport_sub (subMesh h)
    (fun _ he => let ⟨h0, hl, _⟩ := getI?_eq_some.mp (edge_valid h he); ⟨h0, hl⟩) hEF hEF' hD hD'

end OfPre

/-- `EFDTransport` is a theorem for every coherent source whose edge-face table and whose subset's
    edge-face table meet C03's precondition (every edge in one or two face slots) with distinct faces
    (`Props/C09x.lean` proves the two hypotheses about the subset from those about the source) -/
theorem efdTransport_of_pre {n n' w : Nat} (B : Base) (idx : List Nat)
    (h : Pre n w { t := B.t, EN := B.EN, FE := B.FE } idx)
    (hP : Incidence.Pre n B.t B.FE B.N B.EN.length)
    (hP' : Incidence.Pre n' (B.slice idx).t (B.slice idx).FE (B.slice idx).N (B.slice idx).EN.length)
    (hD : DistinctFaces B.EF) (hD' : DistinctFaces (B.slice idx).EF) : EFDTransport B idx :=
  efd_transport h (C03.edgeFace_ok hP) (C03.edgeFace_ok hP') hD hD'

/-- **C09, histories, `edge_face_distances`, without the run-time hypothesis**: for every coherent
    source (C02-correct edge tables, manifold: C03's precondition, for the source and for the subset; no
    face listing an edge twice), every request history before slicing and every request order afterwards,
    the subset reports the distances it derives from its own edge-face table -/
theorem efd_history_independent_of_pre {n n' w : Nat} {B : Base} {g : State} (hc : Coh B g) (he : EfdOK B g)
    {idx : List Nat} (h : Pre n w { t := B.t, EN := B.EN, FE := B.FE } idx)
    (hP : Incidence.Pre n B.t B.FE B.N B.EN.length)
    (hP' : Incidence.Pre n' (B.slice idx).t (B.slice idx).FE (B.slice idx).N (B.slice idx).EN.length)
    (hD : DistinctFaces B.EF) (hD' : DistinctFaces (B.slice idx).EF) (hist order : List Var) :
    ((runHist g hist).bind (fun g => g.slice idx)).bind (fun u => u.viewEFD order)
      = some (B.slice idx).EFD :=
  efd_history_independent hc he (efdTransport_of_pre B idx h hP hP' hD hD') hist order

/-! ### the backing of the source's arrays, and source-supplied edge tables -/

/-- **backing**: `Grid.chunk(...)` is a history operation (`Var.chunk`, allowed at ANY position of
    every history quantified over above), and a source that differs only in its backing gives the
    same subset tables -/
theorem slice_backing_irrelevant {B : Base} {g : State} (h : Coh B g) {idx : List Nat}
    (hidx : ∀ f ∈ idx, f < B.t.length) (b : Backing) (hist order : List Var) :
    ((runHist { g with backing := b } hist).bind (fun g => g.slice idx)).bind (fun u => u.view order)
      = ((runHist g hist).bind (fun g => g.slice idx)).bind (fun u => u.view order) := by
  rw [slice_history_independent (Coh.backing h b) hidx, slice_history_independent h hidx]

/-- … and the same `edge_face_distances` -/
theorem efd_backing_irrelevant {B : Base} {g : State} (h : Coh B g) (he : EfdOK B g) {idx : List Nat}
    (hidx : ∀ f ∈ idx, f < B.t.length) (hT : EFDTransport B idx) (b : Backing) (hist order : List Var) :
    ((runHist { g with backing := b } hist).bind (fun g => g.slice idx)).bind (fun u => u.viewEFD order)
      = ((runHist g hist).bind (fun g => g.slice idx)).bind (fun u => u.viewEFD order) := by
  have he' : EfdOK B { g with backing := b } := he
  rw [efd_history_independent (Coh.backing h b) he' hT, efd_history_independent h he hT]

/-- **the source's own edge table survives every selection**: for a coherent source that has an
    `edge_node_connectivity` (supplied in any row order and orientation, or derived), after ANY history of
    requests and after the read of `face_edge_connectivity` every slice starts with, the table is still the
    same list of rows, the faces' edges refer to ITS numbering, and so do the subset's recorded edge
    indices (they are `edgeSel` of exactly these tables) -/
theorem slice_keeps_supplied_edges {B : Base} {g : State} (h : Coh B g) (hen : g.en = some B.EN)
    (hist : List Var) :
    ∃ g1 g2, runHist g hist = some g1 ∧ getFE g1 = some g2 ∧ g2.en = some B.EN ∧ g2.fe = some B.FE ∧
      ∀ idx, (g1.slice idx).map (fun u => u.recd)
        = some (some ((sliceFaces ⟨B.t, B.EN, B.FE⟩ idx).nodeIdx, idx, (sliceFaces ⟨B.t, B.EN, B.FE⟩ idx).edgeIdx)) := by
  obtain ⟨g1, h1, s1⟩ := runHist_step h hist
  obtain ⟨g2, h2, s2, _, f2⟩ := getFE_step s1.coh
  refine ⟨g1, g2, h1, h2, s2.en (s1.en hen), f2, fun idx => ?_⟩
  obtain ⟨_, _, _, hs⟩ := slice_eq s1.coh idx
  rw [hs]; rfl

/-! ## 8. /repo before the repair: proved counterexamples, and non-vacuity -/

/-- two triangles sharing the edge (1,2) -/
def t2 : Table := [[0, 1, 2], [2, 1, 3]]
def src2 : Src := { t := t2, EN := [(0, 1), (0, 2), (1, 2), (1, 3), (2, 3)], FE := [[0, 2, 1], [2, 3, 4]] }
def g2 : State := { w := 3, t := t2 }

/-- the hypotheses of the main theorems are satisfiable (a genuine sub-selection, a permutation
    of all faces, an unsorted selection with padding) -/
example : src2.EN = edges t2 ∧ src2.FE = faceEdges t2 := by decide +kernel
example : Pre 4 3 src2 [1] := by decide +kernel
example : Pre 4 3 src2 [1, 0] := by decide +kernel
example : Pre 6 4 { t := [[0, 1, 2, FILL], [2, 1, 3, 4], [4, 3, 5, FILL]],
                    EN := edges [[0, 1, 2, FILL], [2, 1, 3, 4], [4, 3, 5, FILL]],
                    FE := faceEdges [[0, 1, 2, FILL], [2, 1, 3, 4], [4, 3, 5, FILL]] } [2, 0] := by decide +kernel
/-- the subset of the second triangle: nodes 1,2,3 become 0,1,2, its three edges become 0,1,2 -/
example : sliceFaces src2 [1] =
    { nodeIdx := [1, 2, 3], faceIdx := [1], edgeIdx := [2, 3, 4], t := [[1, 0, 2]],
      EN := [(0, 1), (0, 2), (1, 2)], FE := [[0, 1, 2]] } := by decide +kernel
example : Slice.Spec src2 3 [1] (sliceFaces src2 [1]).obs := slice_meets_spec (n := 4) (by decide +kernel)
/-- the specification is not trivially true: a subset that keeps the source's numbering fails -/
example : ¬ Slice.Spec src2 3 [1]
    { nodeIdx := [1, 2, 3], faceIdx := [1], edgeIdx := [2, 3, 4], t := [[2, 1, 3]],
      EN := [(1, 2), (1, 3), (2, 3)], FE := [[2, 3, 4]], N := [3] } := by decide +kernel
example : Coh { w := 3, t := t2, EN := edges t2, FE := reshape 3 (faceEdges t2).flatten } g2 :=
  coh_fresh 3 t2 (by decide +kernel)
/-- the end-to-end theorem instantiated: a history before, a request order after -/
example := built_grid_end_to_end (n := 4) (w := 3) (t := t2) (by decide +kernel) (idx := [1]) (by decide +kernel) (by decide +kernel)
  [.holes, .faceFace] [.nodeFace]
example : Edges.build (sliceFaces src2 [1]).t = ⟨[(0, 1), (0, 2), (1, 2)], [[0, 1, 2]], [3]⟩ := by decide +kernel
/-- what the repaired slicer reports for the second triangle with no history (by
    `slice_history_independent` the same after any) -/
example : (g2.slice [1]).bind (fun u => u.view []) =
    some { en := [(0, 1), (0, 2), (1, 2)], fe := [[0, 1, 2]], npf := [3], nf := [[0], [0], [0]],
           ef := [(0, FILL), (0, FILL), (0, FILL)], ff := [[FILL, FILL, FILL]], holes := [0, 1, 2] } := by
  decide +kernel

/-- data: a rank-2 instance of `data_aligned_rank` (one leading index) -/
example : (atN 1 (iselN 1 ([[10, 11, 12], [20, 21, 22]] : NArr Nat 1) [2, 0]) [1] 0).join = some 22 := by
  decide +kernel
/-- the scan on three edges, two schedules -/
example : crossingEdges (0 : Int) [(-1, 1), (1, 2), (3, -2)] [0, 1, 2] = [0, 2] ∧
    crossingEdges (0 : Int) [(-1, 1), (1, 2), (3, -2)] [2, 0, 1] = [0, 2] := by decide +kernel
/-- an antimeridian-spanning box keeps 175° and -178°, not 0° -/
example : boxSel ({ lon0 := 170, lon1 := -170, lat0 := -10, lat1 := 10, m180 := -180, p180 := 180 } : Box Int)
    [175, 0, -178] [0, 0, 5] = [0, 2] := by decide +kernel
example : knnSel ([5, 1, 3, 1] : List Int) 2 = [3, 1] := by decide +kernel

/-- the transport condition holds on the two-triangle example (its only interior edge becomes a boundary
    edge of the subset) and on a strip of three quads cut in the middle -/
example : EFDTransport { w := 3, t := t2, EN := edges t2, FE := faceEdges t2 } [1] := by decide +kernel
example : EFDTransport { w := 4, t := [[0, 1, 5, 4], [1, 2, 6, 5], [2, 3, 7, 6]],
                         EN := edges [[0, 1, 5, 4], [1, 2, 6, 5], [2, 3, 7, 6]],
                         FE := faceEdges [[0, 1, 5, 4], [1, 2, 6, 5], [2, 3, 7, 6]] } [2, 1] := by decide +kernel

/-- `efdTransport_of_pre` instantiated (three quads in a row, subset = the last two in reverse order):
    all its hypotheses are satisfiable -/
example : EFDTransport { w := 4, t := [[0, 1, 5, 4], [1, 2, 6, 5], [2, 3, 7, 6]],
                         EN := edges [[0, 1, 5, 4], [1, 2, 6, 5], [2, 3, 7, 6]],
                         FE := faceEdges [[0, 1, 5, 4], [1, 2, 6, 5], [2, 3, 7, 6]] } [2, 1] :=
  efdTransport_of_pre (n := 8) (n' := 6) (w := 4) _ _ (by decide +kernel) (by decide +kernel) (by decide +kernel) (by decide +kernel) (by decide +kernel)

/-- chunking the source between materialising `edge_face_distances` and slicing changes nothing (an
    in-place write through `.values` on a dask-backed copy, seeded change C09d (seeded/C09d), breaks exactly this) -/
example : ((runHist g2 [.edgeFaceDist, .chunk, .faceFace]).bind (fun g => g.slice [1])).bind (fun u => u.viewEFD [.chunk])
    = some [none, none, none] := by decide +kernel

/-- a source-supplied edge table: the derived rows of the two triangles in ANOTHER order, three of them
    listing the larger node first.  The hypotheses of the slice theorems are met as they stand (C02's
    specification compares unordered pairs), the faces' edges are looked up in it, and the subset's
    recorded edges `[0, 2, 4]` are rows of THIS table with their orientation kept -/
def enSup : List (Int × Int) := [(2, 1), (0, 1), (3, 2), (2, 0), (1, 3)]
example : lookupFE t2 enSup = some [[1, 0, 3], [0, 4, 2]] := by decide +kernel
example : Pre 4 3 ⟨t2, enSup, [[1, 0, 3], [0, 4, 2]]⟩ [1] := by decide +kernel
example : Slice.Spec ⟨t2, enSup, [[1, 0, 3], [0, 4, 2]]⟩ 3 [1] (sliceFaces ⟨t2, enSup, [[1, 0, 3], [0, 4, 2]]⟩ [1]).obs :=
  slice_meets_spec (n := 4) (by decide +kernel)
example : sliceFaces ⟨t2, enSup, [[1, 0, 3], [0, 4, 2]]⟩ [1] =
    { nodeIdx := [1, 2, 3], faceIdx := [1], edgeIdx := [0, 2, 4], t := [[1, 0, 2]],
      EN := [(1, 0), (2, 1), (0, 2)], FE := [[0, 2, 1]] } := by decide +kernel
example := slice_keeps_supplied_edges (coh_supplied_en 3 t2 enSup [[1, 0, 3], [0, 4, 2]] (by decide +kernel)) rfl
  [.holes, .chunk, .edgeFaceDist]
/-- had the lookup failed to match the rows listing the larger node first, the edges would have been
    rebuilt: another table, another numbering -/
example : edges t2 ≠ enSup := by decide +kernel

/-! ### what /repo did before the repair -/

/-- **as-is defect 1a**: /repo copies the source's `inverse_indices` onto the subset and drops
    `face_edge_connectivity`; the first request for it reshapes 6 numbers into a 1 × 3 table: it raises
    (every proper face subset of every grid) -/
theorem asis_face_edge_raises : (g2.sliceAsIs [1]).bind (fun u => request u .faceEdge) = none := by
  decide +kernel

/-- **as-is defect 1b**: when the sizes happen to agree (all faces, another order) nothing raises and
    the subset silently reports the SOURCE's rows in the SOURCE's order: row 0 does not describe
    subset face 0 (C02's specification of the subset fails) -/
theorem asis_face_edge_stale :
    ((g2.sliceAsIs [1, 0]).bind (fun u => u.view [])).map
      (fun v => (v.fe, decide (FaceEdgesOK [[2, 1, 3], [0, 1, 2]] 3 v.en v.fe)))
      = some ([[0, 2, 1], [2, 3, 4]], false) := by
  decide +kernel

/-- the repaired slicer on the same request -/
theorem repaired_face_edge_permuted :
    ((g2.slice [1, 0]).bind (fun u => u.view [])).map
      (fun v => (v.fe, decide (FaceEdgesOK [[2, 1, 3], [0, 1, 2]] 3 v.en v.fe)))
      = some ([[2, 3, 4], [0, 2, 1]], true) := by
  decide +kernel

/-- **as-is defect 2** (visible once defect 1 is repaired): a `hole_edge_indices` materialised on the
    source has no grid dimension, passes through `isel` unchanged and is reported by the subset: the
    source's four boundary edges instead of the subset's three -/
theorem asis_holes_stale :
    (((runHist g2 [.holes]).bind (fun g => g.sliceWith false true true [1])).bind (fun u => u.view [])).map
      (fun v => v.holes) = some [0, 1, 3, 4] ∧
    (((runHist g2 [.holes]).bind (fun g => g.slice [1])).bind (fun u => u.view [])).map
      (fun v => v.holes) = some [0, 1, 2] := by
  decide +kernel

/-- **as-is defect 3** (/repo after C09-1 and C09-2): a materialised `edge_face_distances` is sliced as if
    it were a per-edge invariant.  Two triangles sharing an edge, subset = the second one: if the parent had
    materialised the variable, the subset reports the distance to a face it does not contain for its edge 0
    (`(-1, 0)`); with a fresh parent (or the repaired slicer) that edge is a boundary edge with distance 0 -/
theorem asis_efd_stale :
    ((runHist g2 [.edgeFaceDist]).bind (fun g => g.sliceWith false false true [1])).bind (fun u => u.viewEFD [])
      = some [some (-1, 0), none, none] ∧
    ((runHist g2 []).bind (fun g => g.sliceWith false false true [1])).bind (fun u => u.viewEFD [])
      = some [none, none, none] ∧
    ((runHist g2 [.edgeFaceDist]).bind (fun g => g.slice [1])).bind (fun u => u.viewEFD [])
      = some [none, none, none] := by
  decide +kernel

end UxVerif.C09
