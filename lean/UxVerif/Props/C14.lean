/-
  C14 — Arc predicates and intersections agree with exact spherical geometry.

  Theorems about the exact model `UxVerif.Arcs` (the oracle the driver executes at `Rat`) over every
  ordered field and all direction vectors: `OnArc` is the cone of the end points (`onArc_iff_cone`);
  `intersections` reports exactly the common points (`intersections_on_both`,
  `common_point_reported`, `crossing_one`, `disjoint_none`); both are invariant under swaps and
  rotation about the polar axis (`onArc_swap`, `onArc_rotZ`, `meet_swap_arcs`, `meet_rotZ`); the
  closed form of `extreme_gca_latitude` (`code_param`, `code_dmax_iff`) selects the extreme latitude
  over all points of the arc (`extreme_is_max`, `extreme_is_min`); the as-is pole branch of
  `point_within_gca` accepts points off the arc (`asis_pole_branch_equator_start`); call sequences
  are pure (`runWith_pure`); the rounded plane residual is within 69u (`plane_residual_error`,
  `margin_decides_plane_test`; `double_plane_thresholds`: `MACHINE_EPSILON` is not covered).
  Of the model's margins only `offCircleBy`/`arcLenMargin` have a theorem (`residual_of_margins`);
  the float evaluation inside the implementation is tied by harness/c14.py only.
-/
import Mathlib.Tactic.Ring
import Mathlib.Tactic.Linarith
import Mathlib.Tactic.LinearCombination
import Mathlib.Tactic.Positivity
import Mathlib.Tactic.FieldSimp
import Mathlib.Algebra.Order.Field.Basic
import Mathlib.Algebra.Order.Group.MinMax
import Mathlib.Algebra.Order.Ring.Rat
import UxVerif.Model.Arcs
import UxVerif.Gen.Constants

namespace UxVerif.C14
open UxVerif.Arcs

-- theorems take all instance variables of their section, also where the proof needs fewer
set_option linter.unusedSectionVars false

/-! ## Vector algebra of the model (`_v`: Mathlib's name of the same law) -/

section
variable {K : Type} [CommRing K]

theorem v3_ext {a b : V3 K} (hx : a.x = b.x) (hy : a.y = b.y) (hz : a.z = b.z) : a = b := by
  cases a; cases b; simp_all

theorem neg_neg_v (a : V3 K) : neg (neg a) = a := by
  apply v3_ext <;> simp only [neg, neg_neg]

theorem one_smul_v (v : V3 K) : smul 1 v = v := by
  apply v3_ext <;> simp only [smul, one_mul]

theorem zero_smul_v (v : V3 K) : smul 0 v = zero := by
  apply v3_ext <;> simp only [smul, zero, zero_mul]

theorem add_zero_v (v : V3 K) : add v zero = v := by
  apply v3_ext <;> simp only [add, zero, add_zero]

theorem smul_smul_v (k l : K) (v : V3 K) : smul k (smul l v) = smul (k * l) v := by
  apply v3_ext <;> simp only [smul, mul_assoc]

theorem smul_add_v (k : K) (u v : V3 K) : smul k (add u v) = add (smul k u) (smul k v) := by
  apply v3_ext <;> simp only [smul, add, mul_add]

theorem neg_zero_v : neg (zero : V3 K) = zero := by
  apply v3_ext <;> simp only [neg, zero, neg_zero]

theorem neg_smul_neg_v (k : K) (v : V3 K) : smul (-k) (neg v) = smul k v := by
  apply v3_ext <;> simp only [smul, neg, neg_mul_neg]

theorem dot_comm (a b : V3 K) : dot a b = dot b a := by
  simp only [dot]; ring

theorem dot_neg_left (a b : V3 K) : dot (neg a) b = -dot a b := by
  simp only [dot, neg]; ring

theorem dot_neg_right (a b : V3 K) : dot a (neg b) = -dot a b := by
  simp only [dot, neg]; ring

theorem dot_smul_left (k : K) (a b : V3 K) : dot (smul k a) b = k * dot a b := by
  simp only [dot, smul]; ring

theorem dot_smul_right (k : K) (a b : V3 K) : dot a (smul k b) = k * dot a b := by
  simp only [dot, smul]; ring

theorem cross_swap (a b : V3 K) : cross b a = neg (cross a b) := by
  apply v3_ext <;> simp only [cross, neg] <;> ring

theorem cross_neg_left (a b : V3 K) : cross (neg a) b = neg (cross a b) := by
  apply v3_ext <;> simp only [cross, neg] <;> ring

theorem cross_neg_right (a b : V3 K) : cross a (neg b) = neg (cross a b) := by
  rw [cross_swap (neg b) a, cross_neg_left, cross_swap a b, neg_neg_v]

theorem cross_smul_left (k : K) (a b : V3 K) : cross (smul k a) b = smul k (cross a b) := by
  apply v3_ext <;> simp only [cross, smul] <;> ring

theorem cross_smul_right (k : K) (a b : V3 K) : cross a (smul k b) = smul k (cross a b) := by
  apply v3_ext <;> simp only [cross, smul] <;> ring

theorem cross_zero_left (a : V3 K) : cross zero a = zero := by
  apply v3_ext <;> simp only [cross, zero, zero_mul, sub_zero]

theorem cross_cross (n c d : V3 K) :
    cross n (cross c d) = add (smul (dot n d) c) (neg (smul (dot n c) d)) := by
  apply v3_ext <;> simp only [cross, add, smul, neg, dot] <;> ring

theorem lagrange (a b : V3 K) :
    normSq (cross a b) = normSq a * normSq b - dot a b * dot a b := by
  simp only [normSq, dot, cross]; ring

theorem normSq_comb (a b : V3 K) (s t : K) :
    normSq (add (smul s a) (smul t b))
      = s * s * normSq a + 2 * s * t * dot a b + t * t * normSq b := by
  simp only [normSq, dot, add, smul]; ring

/-- `p` in the basis `a, b, a×b`, scaled by `|a×b|²` -/
theorem basis_identity (a b p : V3 K) :
    smul (normSq (cross a b)) p =
      add (add (smul (dot (cross p b) (cross a b)) a) (smul (dot (cross a p) (cross a b)) b))
        (smul (dot (cross a b) p) (cross a b)) := by
  apply v3_ext <;> simp only [smul, add, normSq, dot, cross] <;> ring

theorem coords_comb (a b : V3 K) (s t : K) :
    dot (cross a b) (add (smul s a) (smul t b)) = 0 ∧
    dot (cross a (add (smul s a) (smul t b))) (cross a b) = t * normSq (cross a b) ∧
    dot (cross (add (smul s a) (smul t b)) b) (cross a b) = s * normSq (cross a b) := by
  refine ⟨?_, ?_, ?_⟩ <;> simp only [dot, cross, add, smul, normSq] <;> ring

/-- `|n|² x = (x·n) n + (n₂·x) (n×n₁) − (n₁·x) (n×n₂)` for `n = n₁×n₂` -/
theorem perp_identity (n₁ n₂ x : V3 K) :
    smul (normSq (cross n₁ n₂)) x =
      add (smul (dot x (cross n₁ n₂)) (cross n₁ n₂))
        (add (smul (dot n₂ x) (cross (cross n₁ n₂) n₁))
          (neg (smul (dot n₁ x) (cross (cross n₁ n₂) n₂)))) := by
  apply v3_ext <;> simp only [smul, add, neg, normSq, dot, cross] <;> ring

theorem parallel_of_perp (n₁ n₂ x : V3 K) (h₁ : dot n₁ x = 0) (h₂ : dot n₂ x = 0) :
    smul (normSq (cross n₁ n₂)) x = smul (dot x (cross n₁ n₂)) (cross n₁ n₂) := by
  rw [perp_identity n₁ n₂ x, h₁, h₂, zero_smul_v, zero_smul_v, neg_zero_v, add_zero_v,
    add_zero_v]

theorem dot_rotZ {c s : K} (h : c * c + s * s = 1) (a b : V3 K) :
    dot (rotZ c s a) (rotZ c s b) = dot a b := by
  simp only [dot, rotZ]
  linear_combination (a.x * b.x + a.y * b.y) * h

theorem cross_rotZ {c s : K} (h : c * c + s * s = 1) (a b : V3 K) :
    cross (rotZ c s a) (rotZ c s b) = rotZ c s (cross a b) := by
  apply v3_ext <;> simp only [cross, rotZ]
  · ring
  · ring
  · linear_combination (a.x * b.y - a.y * b.x) * h

theorem neg_rotZ (c s : K) (a : V3 K) : neg (rotZ c s a) = rotZ c s (neg a) := by
  apply v3_ext <;> simp only [neg, rotZ] <;> ring

theorem rotZ_inv {c s : K} (h : c * c + s * s = 1) (a : V3 K) :
    rotZ c (-s) (rotZ c s a) = a := by
  apply v3_ext <;> simp only [rotZ]
  · linear_combination a.x * h
  · linear_combination a.y * h

theorem rotZ_zero (c s : K) : rotZ c s (zero : V3 K) = zero := by
  apply v3_ext <;> simp only [rotZ, zero, mul_zero, sub_zero, add_zero]

theorem rotZ_eq_zero_iff {c s : K} (h : c * c + s * s = 1) (a : V3 K) :
    rotZ c s a = zero ↔ a = zero := by
  constructor
  · intro ha
    rw [← rotZ_inv h a, ha, rotZ_zero]
  · intro ha; rw [ha, rotZ_zero]

theorem neg_ne_zero_v {v : V3 K} (h : v ≠ zero) : neg v ≠ zero := by
  intro hn
  apply h
  rw [← neg_neg_v v, hn, neg_zero_v]

end

section
variable {K : Type} [CommRing K] [LinearOrder K] [IsStrictOrderedRing K]

theorem le_of_mul_self_le {x y : K} (hy : 0 ≤ y) (h : x * x ≤ y * y) : x ≤ y :=
  not_lt.mp fun hlt => (mul_self_lt_mul_self hy hlt).not_ge h

theorem normSq_nonneg (v : V3 K) : 0 ≤ normSq v :=
  add_nonneg (add_nonneg (mul_self_nonneg v.x) (mul_self_nonneg v.y)) (mul_self_nonneg v.z)

theorem normSq_eq_zero {v : V3 K} (h : normSq v = 0) : v = zero := by
  have hxy := add_nonneg (mul_self_nonneg v.x) (mul_self_nonneg v.y)
  obtain ⟨h12, h3⟩ := (add_eq_zero_iff_of_nonneg hxy (mul_self_nonneg v.z)).mp h
  obtain ⟨h1, h2⟩ :=
    (add_eq_zero_iff_of_nonneg (mul_self_nonneg v.x) (mul_self_nonneg v.y)).mp h12
  exact v3_ext (mul_self_eq_zero.mp h1) (mul_self_eq_zero.mp h2) (mul_self_eq_zero.mp h3)

theorem normSq_pos {v : V3 K} (h : v ≠ zero) : 0 < normSq v :=
  lt_of_le_of_ne (normSq_nonneg v) (fun h0 => h (normSq_eq_zero h0.symm))

theorem smul_eq_zero_v {k : K} {v : V3 K} (hk : k ≠ 0) (h : smul k v = zero) : v = zero :=
  v3_ext ((mul_eq_zero.mp (congrArg V3.x h)).resolve_left hk)
    ((mul_eq_zero.mp (congrArg V3.y h)).resolve_left hk)
    ((mul_eq_zero.mp (congrArg V3.z h)).resolve_left hk)

end

/-! ## `OnArc`: invariances and the cone of the end points -/

section
variable {K : Type} [CommRing K] [LinearOrder K] [IsStrictOrderedRing K]

/-- **swapping the arc's end points does not change membership**: all three cross products
    change sign. -/
theorem onArc_swap (a b p : V3 K) : OnArc b a p ↔ OnArc a b p := by
  unfold OnArc
  rw [cross_swap a b, cross_swap p b, cross_swap a p, dot_neg_left, dot_neg_left, dot_neg_left,
    dot_neg_right, dot_neg_right, neg_neg, neg_neg, neg_eq_zero]
  exact and_congr_right fun _ => and_comm

/-- **rotating everything about the polar axis does not change membership** -/
theorem onArc_rotZ {c s : K} (h : c * c + s * s = 1) (a b p : V3 K) :
    OnArc (rotZ c s a) (rotZ c s b) (rotZ c s p) ↔ OnArc a b p := by
  unfold OnArc
  rw [cross_rotZ h, cross_rotZ h, cross_rotZ h, dot_rotZ h, dot_rotZ h, dot_rotZ h]

theorem onArc_smul_pos {k : K} (hk : 0 < k) (a b p : V3 K) :
    OnArc a b (smul k p) ↔ OnArc a b p := by
  unfold OnArc
  rw [dot_smul_right, cross_smul_right, cross_smul_left, dot_smul_left, dot_smul_left,
    mul_eq_zero, or_iff_right hk.ne', mul_nonneg_iff_of_pos_left hk,
    mul_nonneg_iff_of_pos_left hk]

theorem onArc_congr_dir {k l : K} (hk : 0 < k) (hl : 0 < l) {x y : V3 K}
    (h : smul k x = smul l y) (a b : V3 K) : OnArc a b x ↔ OnArc a b y := by
  rw [← onArc_smul_pos hk, h, onArc_smul_pos hl]

theorem onArc_comb (a b : V3 K) {s t : K} (hs : 0 ≤ s) (ht : 0 ≤ t) :
    OnArc a b (add (smul s a) (smul t b)) := by
  obtain ⟨h0, h1, h2⟩ := coords_comb a b s t
  exact ⟨h0, h1 ▸ mul_nonneg ht (normSq_nonneg _), h2 ▸ mul_nonneg hs (normSq_nonneg _)⟩

theorem onArc_left (a b : V3 K) : OnArc a b a := by
  have h := onArc_comb a b zero_le_one (le_refl 0)
  rwa [one_smul_v, zero_smul_v, add_zero_v] at h

theorem onArc_antipodal {a b x : V3 K} (hv : ValidArc a b) (h : OnArc a b x)
    (h' : OnArc a b (neg x)) : x = zero := by
  obtain ⟨h0, h1, h2⟩ := h
  obtain ⟨_, h1', h2'⟩ := h'
  rw [cross_neg_right, dot_neg_left, neg_nonneg] at h1'
  rw [cross_neg_left, dot_neg_left, neg_nonneg] at h2'
  have hb := basis_identity a b x
  rw [h0, le_antisymm h1' h1, le_antisymm h2' h2, zero_smul_v, zero_smul_v, zero_smul_v,
    add_zero_v, add_zero_v] at hb
  exact smul_eq_zero_v (normSq_pos hv).ne' hb

end

section
variable {K : Type} [Field K] [LinearOrder K] [IsStrictOrderedRing K]

/-- **`OnArc` is "on the great circle and between the end points"**: for a valid arc the
    points of the minor arc are exactly the non-negative combinations of the end points. -/
theorem onArc_iff_cone (a b p : V3 K) (hv : ValidArc a b) :
    OnArc a b p ↔ ∃ s t : K, 0 ≤ s ∧ 0 ≤ t ∧ p = add (smul s a) (smul t b) := by
  have hN := normSq_pos hv
  constructor
  · rintro ⟨h0, h1, h2⟩
    -- divide the decomposition of `|a×b|² p` by `|a×b|²`
    have hb := basis_identity a b p
    rw [h0, zero_smul_v, add_zero_v] at hb
    have hp : p = smul (normSq (cross a b))⁻¹ (smul (normSq (cross a b)) p) := by
      rw [smul_smul_v, inv_mul_cancel₀ hN.ne', one_smul_v]
    rw [hb, smul_add_v, smul_smul_v, smul_smul_v] at hp
    have hi := inv_nonneg.mpr hN.le
    exact ⟨_, _, mul_nonneg hi h2, mul_nonneg hi h1, hp⟩
  · rintro ⟨s, t, hs, ht, rfl⟩
    exact onArc_comb a b hs ht

theorem onArc_right (a b : V3 K) : OnArc a b b := by
  rw [← onArc_swap]; exact onArc_left b a

end

/-! ## `intersections` (`meetDir_*`: the candidate direction; `meet_*`: the reported list) -/

section
variable {K : Type} [CommRing K]

theorem meetDir_swap_arcs (a b c d : V3 K) : meetDir c d a b = neg (meetDir a b c d) :=
  cross_swap _ _

theorem meetDir_swap_ends (a b c d : V3 K) : meetDir b a c d = neg (meetDir a b c d) := by
  unfold meetDir; rw [cross_swap a b, cross_neg_left]

theorem meetDir_swap_ends' (a b c d : V3 K) : meetDir a b d c = neg (meetDir a b c d) := by
  unfold meetDir; rw [cross_swap c d, cross_neg_right]

theorem meetDir_rotZ {c s : K} (h : c * c + s * s = 1) (a b c' d : V3 K) :
    meetDir (rotZ c s a) (rotZ c s b) (rotZ c s c') (rotZ c s d) = rotZ c s (meetDir a b c' d) := by
  unfold meetDir
  rw [cross_rotZ h, cross_rotZ h, cross_rotZ h]

/-- the candidate direction lies on both great circles -/
theorem meetDir_perp (a b c d : V3 K) :
    dot (cross a b) (meetDir a b c d) = 0 ∧ dot (cross c d) (meetDir a b c d) = 0 := by
  constructor <;> simp only [meetDir, dot, cross] <;> ring

theorem validArc_of_diffCircles {a b c d : V3 K} (hd : DiffCircles a b c d) : ValidArc a b :=
  fun h => hd (by unfold meetDir; rw [h, cross_zero_left])

end

section
variable {K : Type} [CommRing K] [LinearOrder K] [IsStrictOrderedRing K]

theorem mem_intersections (a b c d x : V3 K) :
    x ∈ intersections a b c d ↔
      (x = meetDir a b c d ∨ x = neg (meetDir a b c d)) ∧ OnBoth a b c d x := by
  unfold intersections
  simp [List.mem_filter]

/-- **each returned point lies on both arcs** -/
theorem intersections_on_both (a b c d x : V3 K) (h : x ∈ intersections a b c d) :
    OnArc a b x ∧ OnArc c d x :=
  ((mem_intersections a b c d x).mp h).2

theorem intersections_reverse {a b c d a' b' c' d' : V3 K}
    (hm : meetDir a' b' c' d' = neg (meetDir a b c d))
    (hP : ∀ x, OnBoth a' b' c' d' x ↔ OnBoth a b c d x) :
    intersections a' b' c' d' = (intersections a b c d).reverse := by
  unfold intersections
  rw [hm, neg_neg_v, ← List.filter_reverse]
  exact List.filter_congr fun x _ => decide_eq_decide.mpr (hP x)

/-- **swapping the two arcs** returns the same points (in the opposite order) -/
theorem meet_swap_arcs (a b c d : V3 K) :
    intersections c d a b = (intersections a b c d).reverse :=
  intersections_reverse (meetDir_swap_arcs a b c d) fun _ => and_comm

/-- **swapping the end points of the first arc** returns the same points -/
theorem meet_swap_ends (a b c d : V3 K) :
    intersections b a c d = (intersections a b c d).reverse :=
  intersections_reverse (meetDir_swap_ends a b c d) fun x => and_congr_left' (onArc_swap a b x)

/-- **swapping the end points of the second arc** returns the same points -/
theorem meet_swap_ends' (a b c d : V3 K) :
    intersections a b d c = (intersections a b c d).reverse :=
  intersections_reverse (meetDir_swap_ends' a b c d) fun x => and_congr_right' (onArc_swap c d x)

/-- **rotating both arcs about the polar axis** rotates the returned points -/
theorem meet_rotZ {c s : K} (h : c * c + s * s = 1) (a b c' d : V3 K) :
    intersections (rotZ c s a) (rotZ c s b) (rotZ c s c') (rotZ c s d) =
      (intersections a b c' d).map (rotZ c s) := by
  unfold intersections
  rw [meetDir_rotZ h, neg_rotZ]
  change List.filter _ (List.map (rotZ c s) [meetDir a b c' d, neg (meetDir a b c' d)]) = _
  rw [List.filter_map]
  congr 1
  exact List.filter_congr fun x _ =>
    decide_eq_decide.mpr (and_congr (onArc_rotZ h a b x) (onArc_rotZ h c' d x))

theorem diffCircles_rotZ {c s : K} (h : c * c + s * s = 1) (a b c' d : V3 K) :
    DiffCircles (rotZ c s a) (rotZ c s b) (rotZ c s c') (rotZ c s d) ↔ DiffCircles a b c' d := by
  unfold DiffCircles
  rw [meetDir_rotZ h, Ne, rotZ_eq_zero_iff h]

/-- **disjoint arcs: nothing is reported** -/
theorem disjoint_none (a b c d : V3 K) (hd : DiffCircles a b c d)
    (hdis : ∀ x, x ≠ zero → ¬ OnBoth a b c d x) : intersections a b c d = [] := by
  apply List.eq_nil_iff_forall_not_mem.mpr
  intro x hx
  obtain ⟨hx1, hx2⟩ := (mem_intersections a b c d x).mp hx
  rcases hx1 with rfl | rfl
  · exact hdis _ hd hx2
  · exact hdis _ (neg_ne_zero_v hd) hx2

/-- **at most one point is reported for arcs on different great circles** -/
theorem intersections_length_le_one (a b c d : V3 K) (hd : DiffCircles a b c d) :
    (intersections a b c d).length ≤ 1 := by
  have hnb : ¬ (OnArc a b (meetDir a b c d) ∧ OnArc a b (neg (meetDir a b c d))) :=
    fun h => hd (onArc_antipodal (validArc_of_diffCircles hd) h.1 h.2)
  unfold intersections
  simp only [List.filter_cons, List.filter_nil]
  by_cases h1 : OnBoth a b c d (meetDir a b c d) <;>
    by_cases h2 : OnBoth a b c d (neg (meetDir a b c d)) <;> simp [h1, h2]
  exact hnb ⟨h1.1, h2.1⟩

/-- **completeness: every common point of the two arcs is reported** (as a direction: the
    returned vector is a positive multiple of it). -/
theorem common_point_reported (a b c d x : V3 K) (hd : DiffCircles a b c d) (hx : x ≠ zero)
    (hon : OnBoth a b c d x) :
    ∃ y ∈ intersections a b c d, ∃ k l : K, 0 < k ∧ 0 < l ∧ smul k x = smul l y := by
  -- `x` is perpendicular to both normals: `|m|² x = (x·m) m` for the candidate `m`
  have hpar : smul (normSq (meetDir a b c d)) x = smul (dot x (meetDir a b c d)) (meetDir a b c d) :=
    parallel_of_perp (cross a b) (cross c d) x hon.1.1 hon.2.1
  have hn := normSq_pos hd
  have report : ∀ y l, (y = meetDir a b c d ∨ y = neg (meetDir a b c d)) → 0 < l →
      smul (normSq (meetDir a b c d)) x = smul l y →
      ∃ y ∈ intersections a b c d, ∃ k l : K, 0 < k ∧ 0 < l ∧ smul k x = smul l y :=
    fun y l hy hl e =>
      ⟨y, (mem_intersections a b c d y).mpr
        ⟨hy, (onArc_congr_dir hn hl e a b).mp hon.1, (onArc_congr_dir hn hl e c d).mp hon.2⟩,
        _, l, hn, hl, e⟩
  rcases lt_trichotomy (dot x (meetDir a b c d)) 0 with hneg | h0 | hpos
  · exact report _ _ (Or.inr rfl) (neg_pos.mpr hneg) (by rw [neg_smul_neg_v]; exact hpar)
  · rw [h0, zero_smul_v] at hpar
    exact absurd (smul_eq_zero_v hn.ne' hpar) hx
  · exact report _ _ (Or.inl rfl) hpos hpar

/-- **a crossing is reported exactly once**: arcs on different great circles with a common
    point `x` yield exactly one point, in the direction of `x`. -/
theorem crossing_one (a b c d x : V3 K) (hd : DiffCircles a b c d) (hx : x ≠ zero)
    (hon : OnBoth a b c d x) :
    ∃ y, intersections a b c d = [y] ∧ ∃ k l : K, 0 < k ∧ 0 < l ∧ smul k x = smul l y := by
  obtain ⟨y, hy, k, l, hk, hl, e⟩ := common_point_reported a b c d x hd hx hon
  have hlen := intersections_length_le_one a b c d hd
  match hL : intersections a b c d, hy, hlen with
  | [y'], hy, _ =>
    have : y = y' := by simpa using hy
    subst this
    exact ⟨y, rfl, k, l, hk, hl, e⟩
  | [], hy, _ => cases hy
  | _ :: _ :: _, _, hlen => simp at hlen

end

section
variable {K : Type} [Field K] [LinearOrder K] [IsStrictOrderedRing K]

/-- **T-junction**: when an end point `c` of the second arc lies on the first arc (different
    great circles) exactly one point is reported, in the direction of `c`. -/
theorem intersection_at_endpoint (a b c d : V3 K) (hd : DiffCircles a b c d) (hc : c ≠ zero)
    (hon : OnArc a b c) :
    ∃ y, intersections a b c d = [y] ∧ ∃ k l : K, 0 < k ∧ 0 < l ∧ smul k c = smul l y :=
  crossing_one a b c d c hd hc ⟨hon, onArc_left c d⟩

/-- **arcs on the same great circle** (collinear, overlapping or not) are outside the "different
    great circles" clause: the candidate direction vanishes, `DiffCircles` is false -/
theorem same_circle_not_diff (a b c d : V3 K) (hc : dot (cross a b) c = 0)
    (hd : dot (cross a b) d = 0) : ¬ DiffCircles a b c d := by
  intro h
  apply h
  unfold meetDir
  rw [cross_cross, hc, hd, zero_smul_v, zero_smul_v, neg_zero_v, add_zero_v]

end

/-! ## The extreme latitude of an arc

  `K` has no square root: a length `rp` or a sine `σ` is given as a non-negative number with its
  square, and `sin(lat p) ≤ m` reads `p.z ≤ m * rp`. -/

section
variable {K : Type} [CommRing K]

/-- the apex is `rise b a • a + rise a b • b` — the point the closed form of
    `extreme_gca_latitude` interpolates to -/
theorem apex_eq_comb (a b : V3 K) :
    apex a b = add (smul (rise b a) a) (smul (rise a b) b) := by
  apply v3_ext <;> simp only [apex, apexOf, add, smul, rise, normSq, dot, cross] <;> ring

theorem rise_unit (a b : V3 K) (ha : normSq a = 1) : rise a b = b.z - dot a b * a.z := by
  unfold rise; rw [ha, one_mul]

theorem rise_add_rise (a b : V3 K) (ha : normSq a = 1) (hb : normSq b = 1) :
    rise a b + rise b a = (a.z + b.z) * (1 - dot a b) := by
  rw [rise_unit a b ha, rise_unit b a hb, dot_comm b a]; ring

theorem rise_add_rise_eq_zero_iff (a b : V3 K) (ha : normSq a = 1) (hb : normSq b = 1) :
    rise a b + rise b a = 0 ↔ (a.z + b.z) * (dot a b - 1) = 0 := by
  rw [rise_add_rise a b ha hb, ← neg_eq_zero, ← mul_neg, neg_sub]

theorem flipZ_comb (a b : V3 K) (s t : K) :
    flipZ (add (smul s a) (smul t b)) = add (smul s (flipZ a)) (smul t (flipZ b)) := by
  apply v3_ext <;> simp only [flipZ, add, smul]
  ring

theorem normSq_flipZ (a : V3 K) : normSq (flipZ a) = normSq a := by
  simp only [normSq, dot, flipZ]; ring

theorem rise_flipZ (a b : V3 K) : rise (flipZ a) (flipZ b) = - rise a b := by
  simp only [rise, normSq, dot, flipZ]; ring

theorem cross_flipZ (a b : V3 K) :
    cross (flipZ a) (flipZ b) = ⟨-(cross a b).x, -(cross a b).y, (cross a b).z⟩ := by
  apply v3_ext <;> simp only [cross, flipZ] <;> ring

theorem validArc_flipZ (a b : V3 K) (hv : ValidArc a b) : ValidArc (flipZ a) (flipZ b) := by
  intro h
  rw [cross_flipZ] at h
  have hz : (cross a b).z = 0 := congrArg V3.z h
  exact hv (v3_ext (neg_eq_zero.mp (congrArg V3.x h)) (neg_eq_zero.mp (congrArg V3.y h)) hz)

end

section
variable {K : Type} [CommRing K] [LinearOrder K] [IsStrictOrderedRing K]

theorem dot_sq_lt_one (a b : V3 K) (ha : normSq a = 1) (hb : normSq b = 1) (hv : ValidArc a b) :
    dot a b * dot a b < 1 := by
  have := normSq_pos hv
  rw [lagrange, ha, hb] at this
  linarith

theorem apexInside_unit (a b : V3 K) (ha : normSq a = 1) (hb : normSq b = 1) :
    ApexInside a b ↔ 0 < b.z - dot a b * a.z ∧ 0 < a.z - dot a b * b.z := by
  unfold ApexInside; rw [rise_unit a b ha, rise_unit b a hb, dot_comm b a]

/-- `c` is the cosine of the arc, `s·a + t·b` the point, `rp` its length; `hnot` is `¬ ApexInside`
    (`apexInside_unit`) -/
theorem endpoint_max_aux {az bz c s t rp : K} (hc : c * c ≤ 1) (hs : 0 ≤ s) (ht : 0 ≤ t)
    (hrp : 0 ≤ rp) (hrp2 : rp * rp = s * s + 2 * s * t * c + t * t)
    (hnot : ¬ (0 < bz - c * az ∧ 0 < az - c * bz)) (hab : bz ≤ az) :
    s * az + t * bz ≤ az * rp := by
  obtain ⟨hc0, hc1⟩ := abs_le.mp (abs_le_one_iff_mul_self_le_one.mpr hc)
  -- the latitude does not rise when leaving `a`, because
  -- `(bz − c·az) − (az − c·bz) = (bz − az)(1 + c) ≤ 0`
  have hu : bz ≤ c * az := by
    by_contra hu
    have := mul_nonpos_of_nonpos_of_nonneg (sub_nonpos.mpr hab) (neg_le_iff_add_nonneg'.mp hc0)
    exact hnot ⟨sub_pos.mpr (not_le.mp hu), by linarith [not_le.mp hu]⟩
  have hz := mul_le_mul_of_nonneg_left hu ht
  rcases le_total az 0 with haz | haz
  · -- `a` at or below the equator: `p_z ≤ (s + t)·az ≤ |p|·az` by the triangle inequality
    have tri : rp ≤ s + t :=
      le_of_mul_self_le (add_nonneg hs ht)
        (by linarith [mul_nonneg (mul_nonneg hs ht) (sub_nonneg.mpr hc1)])
    linarith [mul_le_mul_of_nonneg_left hab ht, mul_le_mul_of_nonpos_left tri haz]
  · -- `a` above the equator: `p_z ≤ (s + t·c)·az = (p·a)·az ≤ |p|·az` by Cauchy–Schwarz
    have cs : s + t * c ≤ rp :=
      le_of_mul_self_le hrp
        (by linarith [mul_nonneg (mul_self_nonneg t) (sub_nonneg.mpr hc)])
    linarith [mul_le_mul_of_nonneg_left cs haz]

theorem endpoint_max_scalar {az bz c s t rp : K} (hc : c * c ≤ 1) (hs : 0 ≤ s) (ht : 0 ≤ t)
    (hrp : 0 ≤ rp) (hrp2 : rp * rp = s * s + 2 * s * t * c + t * t)
    (hnot : ¬ (0 < bz - c * az ∧ 0 < az - c * bz)) :
    s * az + t * bz ≤ max az bz * rp := by
  rcases le_total bz az with h | h
  · rw [max_eq_left h]
    exact endpoint_max_aux hc hs ht hrp hrp2 hnot h
  · rw [max_eq_right h, add_comm]
    exact endpoint_max_aux hc ht hs hrp (by rw [hrp2]; ring) (fun hh => hnot hh.symm) h

theorem endpoint_max_unit (a b : V3 K) (ha : normSq a = 1) (hb : normSq b = 1)
    (hnot : ¬ ApexInside a b) (s t rp : K) (hs : 0 ≤ s) (ht : 0 ≤ t) (hrp : 0 ≤ rp)
    (hrp2 : rp * rp = normSq (add (smul s a) (smul t b))) :
    (add (smul s a) (smul t b)).z ≤ max a.z b.z * rp := by
  rw [normSq_comb, ha, hb, mul_one, mul_one] at hrp2
  rw [apexInside_unit a b ha hb] at hnot
  -- Cauchy–Schwarz: `1 − (a·b)² = |a×b|² ≥ 0`
  have hc := normSq_nonneg (cross a b)
  rw [lagrange, ha, hb, mul_one, sub_nonneg] at hc
  exact endpoint_max_scalar hc hs ht hrp hrp2 hnot

/-- when the denominator of `d_a_max` vanishes (numpy yields ±inf / nan, so the code takes the
    end-point branch) neither apex is strictly inside – the end-point branch is the right one -/
theorem dmax_degenerate (a b : V3 K) (ha : normSq a = 1) (hb : normSq b = 1)
    (hden : (a.z + b.z) * (dot a b - 1) = 0) : ¬ ApexInside a b ∧ ¬ NadirInside a b := by
  have hsum := (rise_add_rise_eq_zero_iff a b ha hb).mpr hden
  exact ⟨fun h => (add_pos h.1 h.2).ne' hsum, fun h => (add_neg h.1 h.2).ne hsum⟩

theorem maxK_eq_max (x y : K) : maxK x y = max x y := by
  unfold maxK; split
  · rename_i h; exact (max_eq_right h).symm
  · rename_i h; exact (max_eq_left (le_of_not_ge h)).symm

theorem minK_eq_min (x y : K) : minK x y = min x y := by
  unfold minK; split
  · rename_i h; exact (min_eq_left h).symm
  · rename_i h; exact (min_eq_right (le_of_not_ge h)).symm

theorem apexInside_flipZ (a b : V3 K) : ApexInside (flipZ a) (flipZ b) ↔ NadirInside a b := by
  unfold ApexInside NadirInside
  rw [rise_flipZ, rise_flipZ, neg_pos, neg_pos]

end

section
variable {K : Type} [Field K] [LinearOrder K] [IsStrictOrderedRing K]

/-- **no point of the great circle is higher than its apex**: for every `p` on the circle with
    normal `n`, `sin²(lat p) ≤ (n_x²+n_y²)/|n|²` (cross-multiplied). -/
theorem apex_bound (n p : V3 K) (h : dot n p = 0) :
    p.z * p.z * normSq n ≤ (n.x * n.x + n.y * n.y) * normSq p := by
  -- the difference is the square of the z-component of `n × p`
  have key : (n.x * n.x + n.y * n.y) * normSq p - p.z * p.z * normSq n
      = (n.x * p.y - n.y * p.x) * (n.x * p.y - n.y * p.x) := by
    simp only [normSq, dot] at h ⊢
    linear_combination (n.x * p.x + n.y * p.y - n.z * p.z) * h
  rw [← sub_nonneg, key]
  exact mul_self_nonneg _

/-- **the apex attains the bound** and is in the northern half -/
theorem apex_attained (a b : V3 K) :
    (apex a b).z * (apex a b).z * normSq (cross a b)
      = ((cross a b).x * (cross a b).x + (cross a b).y * (cross a b).y) * normSq (apex a b) ∧
    0 ≤ (apex a b).z := by
  constructor
  · simp only [apex, apexOf, normSq, dot]; ring
  · exact add_nonneg (mul_self_nonneg _) (mul_self_nonneg _)

/-- when the closed form says the apex is interior, the apex is a point of the arc -/
theorem apexInside_onArc (a b : V3 K) (h : ApexInside a b) : OnArc a b (apex a b) := by
  rw [apex_eq_comb]
  exact onArc_comb a b h.2.le h.1.le

set_option linter.unusedVariables false in
/-- **when the apex is not interior, no point of the arc is higher than the higher end point**
    (`a`, `b` unit vectors; `p = s·a + t·b` any point of the arc, `rp = |p|`; `hv` is not used). -/
theorem endpoint_max (a b : V3 K) (ha : normSq a = 1) (hb : normSq b = 1) (hv : ValidArc a b)
    (hnot : ¬ ApexInside a b) (s t rp : K) (hs : 0 ≤ s) (ht : 0 ≤ t) (hrp : 0 ≤ rp)
    (hrp2 : rp * rp = normSq (add (smul s a) (smul t b))) :
    (add (smul s a) (smul t b)).z ≤ max a.z b.z * rp :=
  endpoint_max_unit a b ha hb hnot s t rp hs ht hrp hrp2

/-- `σ ≥ 0` is the sine of the apex latitude: `σ²|n|² = n_x²+n_y²` -/
theorem apex_max (a b : V3 K) (hv : ValidArc a b) (p : V3 K) (hp : dot (cross a b) p = 0)
    (σ rp : K) (hσ : 0 ≤ σ)
    (hσ2 : σ * σ * normSq (cross a b)
      = (cross a b).x * (cross a b).x + (cross a b).y * (cross a b).y)
    (hrp : 0 ≤ rp) (hrp2 : rp * rp = normSq p) : p.z ≤ σ * rp := by
  have hb := apex_bound (cross a b) p hp
  have e : σ * σ * normSq (cross a b) * (rp * rp) = σ * rp * (σ * rp) * normSq (cross a b) := by
    ring
  rw [← hσ2, ← hrp2, e] at hb
  exact le_of_mul_self_le (mul_nonneg hσ hrp) (le_of_mul_le_mul_right hb (normSq_pos hv))

/-- **the extreme latitude of an arc is the largest latitude over all of its points.**
    For unit end points, `extremeMax a b` bounds `sin(lat p) = p_z/|p|` for EVERY point
    `p = s·a + t·b` (`s,t ≥ 0`) of the arc: by the apex value when the closed form says the
    apex is interior (`σ` is its sine), by the higher end point otherwise. Both bounds are attained
    (`apexInside_onArc` + `apex_attained`, `onArc_left/right`). -/
theorem extreme_is_max (a b : V3 K) (ha : normSq a = 1) (hb : normSq b = 1) (hv : ValidArc a b)
    (s t rp σ : K) (hs : 0 ≤ s) (ht : 0 ≤ t) (hrp : 0 ≤ rp)
    (hrp2 : rp * rp = normSq (add (smul s a) (smul t b)))
    (hσ : 0 ≤ σ) (hσ2 : (extremeMax a b).1 = true → σ * σ = (extremeMax a b).2) :
    (add (smul s a) (smul t b)).z ≤
      (if (extremeMax a b).1 then σ else (extremeMax a b).2) * rp := by
  unfold extremeMax at hσ2 ⊢
  by_cases hin : ApexInside a b
  · simp only [hin, if_true] at hσ2 ⊢
    apply apex_max a b hv _ (coords_comb a b s t).1 σ rp hσ _ hrp hrp2
    rw [hσ2 trivial, div_mul_cancel₀ _ (normSq_pos hv).ne']
  · simp only [hin, if_false, Bool.false_eq_true, maxK_eq_max] at hσ2 ⊢
    exact endpoint_max a b ha hb hv hin s t rp hs ht hrp hrp2

/-! mirror image in the equatorial plane: "min" is "max" of the reflected arc -/

theorem extremeMin_flipZ (a b : V3 K) :
    extremeMin a b = ((extremeMax (flipZ a) (flipZ b)).1,
      if (extremeMax (flipZ a) (flipZ b)).1 then (extremeMax (flipZ a) (flipZ b)).2
      else - (extremeMax (flipZ a) (flipZ b)).2) := by
  unfold extremeMin extremeMax
  by_cases h : NadirInside a b
  · have h' := (apexInside_flipZ a b).mpr h
    simp only [h, h', if_true]
    congr 1
    simp only [normSq, dot, cross, flipZ]; ring
  · have h' : ¬ ApexInside (flipZ a) (flipZ b) := fun hh => h ((apexInside_flipZ a b).mp hh)
    simp only [h, h', if_false, Bool.false_eq_true, maxK_eq_max, minK_eq_min]
    simp only [flipZ, max_neg_neg, neg_neg]

/-- **the extreme latitude of an arc is the smallest latitude over all of its points** -/
theorem extreme_is_min (a b : V3 K) (ha : normSq a = 1) (hb : normSq b = 1) (hv : ValidArc a b)
    (s t rp σ : K) (hs : 0 ≤ s) (ht : 0 ≤ t) (hrp : 0 ≤ rp)
    (hrp2 : rp * rp = normSq (add (smul s a) (smul t b)))
    (hσ : 0 ≤ σ) (hσ2 : (extremeMin a b).1 = true → σ * σ = (extremeMin a b).2) :
    (if (extremeMin a b).1 then -σ else (extremeMin a b).2) * rp ≤
      (add (smul s a) (smul t b)).z := by
  have hmax := extreme_is_max (flipZ a) (flipZ b) (by rw [normSq_flipZ, ha])
    (by rw [normSq_flipZ, hb]) (validArc_flipZ a b hv) s t rp σ hs ht hrp
    (by rw [← flipZ_comb, normSq_flipZ]; exact hrp2) hσ
  rw [extremeMin_flipZ] at hσ2 ⊢
  rw [← flipZ_comb] at hmax
  cases hE : (extremeMax (flipZ a) (flipZ b)).1
  · simp only [hE, Bool.false_eq_true, if_false] at hσ2 hmax ⊢
    have := hmax (fun h => absurd h (by simp))
    simp only [flipZ] at this
    simp only [flipZ]
    linarith
  · simp only [hE, if_true] at hσ2 hmax ⊢
    have := hmax (fun _ => hσ2 trivial)
    simp only [flipZ] at this
    linarith

theorem quotient_interior_pos {u v : K} (hS : 0 < u + v) :
    (0 < u / (u + v) ∧ u / (u + v) < 1) ↔ (0 < u ∧ 0 < v) := by
  rw [div_pos_iff_of_pos_right hS, div_lt_one hS, lt_add_iff_pos_right]

theorem quotient_interior_iff {u v : K} (h : u + v ≠ 0) :
    (0 < u / (u + v) ∧ u / (u + v) < 1) ↔ (0 < u ∧ 0 < v) ∨ (u < 0 ∧ v < 0) := by
  rcases lt_or_gt_of_ne h with hS | hS
  · -- the same quotient of `−u` and `−v`
    have hS' : 0 < -u + -v := by linarith
    rw [← neg_div_neg_eq, neg_add, quotient_interior_pos hS', neg_pos, neg_pos]
    exact (or_iff_right fun h => by linarith [h.1, h.2]).symm
  · rw [quotient_interior_pos hS]
    exact (or_iff_left fun h => by linarith [h.1, h.2]).symm

theorem dAMax_eq_rise_div (a b : V3 K) (ha : normSq a = 1) (hb : normSq b = 1) :
    dAMax a b = rise a b / (rise a b + rise b a) := by
  unfold dAMax
  rw [rise_add_rise a b ha hb, rise_unit a b ha, ← neg_div_neg_eq]
  congr 1 <;> ring

/-- **`node3` of the code is the apex (up to the positive/negative scale `u+v`)**: with
    `d = d_a_max`, `(u+v)·((1−d)a + d b) = v·a + u·b = apex`, for unit end points and a
    non-vanishing denominator. -/
theorem code_param (a b : V3 K) (ha : normSq a = 1) (hb : normSq b = 1)
    (hden : (a.z + b.z) * (dot a b - 1) ≠ 0) :
    smul (rise a b + rise b a) (node3 a b) = apex a b := by
  have hS := (rise_add_rise_eq_zero_iff a b ha hb).not.mpr hden
  have hd : (rise a b + rise b a) * dAMax a b = rise a b := by
    rw [dAMax_eq_rise_div a b ha hb, mul_div_cancel₀ _ hS]
  rw [apex_eq_comb]
  apply v3_ext <;> simp only [node3, smul, add]
  · linear_combination (b.x - a.x) * hd
  · linear_combination (b.y - a.y) * hd
  · linear_combination (b.z - a.z) * hd

/-- **the branch `0 < d_a_max < 1` of the code is "north or south apex strictly inside"** -/
theorem code_dmax_iff (a b : V3 K) (ha : normSq a = 1) (hb : normSq b = 1)
    (hden : (a.z + b.z) * (dot a b - 1) ≠ 0) :
    codeInterior a b ↔ (ApexInside a b ∨ NadirInside a b) := by
  unfold codeInterior
  rw [dAMax_eq_rise_div a b ha hb]
  exact quotient_interior_iff ((rise_add_rise_eq_zero_iff a b ha hb).not.mpr hden)

/-- **end points at opposite latitudes** (`z₁ = −z₂`: the denominator of `d_a_max` is exactly 0,
    numpy divides by zero): neither apex is interior, the maximum is `|z|` and the minimum `−|z|`,
    both at end points. -/
theorem extreme_opposite_latitudes (a b : V3 K) (ha : normSq a = 1) (hb : normSq b = 1)
    (hz : a.z = -b.z) :
    extremeMax a b = (false, |a.z|) ∧ extremeMin a b = (false, -|a.z|) := by
  have hden : (a.z + b.z) * (dot a b - 1) = 0 := by rw [hz, neg_add_cancel, zero_mul]
  obtain ⟨h1, h2⟩ := dmax_degenerate a b ha hb hden
  unfold extremeMax extremeMin
  have hbz : b.z = -a.z := by rw [hz, neg_neg]
  have hmin : min a.z (-a.z) = -|a.z| := by
    rw [abs_eq_max_neg, ← min_neg_neg, neg_neg, min_comm]
  rw [if_neg h1, if_neg h2, maxK_eq_max, minK_eq_min, hbz, ← abs_eq_max_neg, hmin]
  exact ⟨rfl, rfl⟩

/-- **an arc along the equator** (`0/0` in the closed form): every latitude is 0 -/
theorem extreme_equatorial (a b : V3 K) (ha : normSq a = 1) (hb : normSq b = 1)
    (haz : a.z = 0) (hbz : b.z = 0) :
    extremeMax a b = (false, 0) ∧ extremeMin a b = (false, 0) := by
  have h := extreme_opposite_latitudes a b ha hb (by rw [haz, hbz, neg_zero])
  rwa [haz, abs_zero, neg_zero] at h

/-- a quarter-turn arc (`a·b = 0`): the apex is interior iff both end points are strictly in the
    northern half -/
theorem apexInside_quarter_turn (a b : V3 K) (ha : normSq a = 1) (hb : normSq b = 1)
    (h90 : dot a b = 0) : ApexInside a b ↔ (0 < a.z ∧ 0 < b.z) := by
  rw [apexInside_unit a b ha hb, h90, zero_mul, zero_mul, sub_zero, sub_zero]
  exact and_comm

/-- **which apex is interior is read off the sign of `z₁ + z₂`** (what
    fixes/C14-extreme-apex-from-normal.patch relies on): north apex interior ⇒
    `z₁ + z₂ > 0`, south apex interior ⇒ `z₁ + z₂ < 0`. -/
theorem interior_sign (a b : V3 K) (ha : normSq a = 1) (hb : normSq b = 1) (hv : ValidArc a b) :
    (ApexInside a b → 0 < a.z + b.z) ∧ (NadirInside a b → a.z + b.z < 0) := by
  have hc : dot a b < 1 :=
    lt_of_mul_self_lt_mul_self₀ zero_le_one (by rw [mul_one]; exact dot_sq_lt_one a b ha hb hv)
  have hsum := rise_add_rise a b ha hb
  constructor
  · rintro ⟨h1, h2⟩
    exact (mul_pos_iff_of_pos_right (sub_pos.mpr hc)).mp (hsum ▸ add_pos h1 h2)
  · rintro ⟨h1, h2⟩
    exact neg_of_mul_neg_left (hsum ▸ add_neg h1 h2) (sub_pos.mpr hc).le

end

/-! ## As-is defects of the unrepaired longitude/latitude logic (regression witnesses)

  `fixes/C14-point-within-gca-vector-test.patch` replaces, for undirected arcs, the
  longitude/latitude interval logic by the two sign tests of `OnArc` (whose correctness is
  `onArc_iff_cone`).  The as-is logic of the through-a-pole branch accepts points that are not
  on the arc; the Cartesian witnesses below are replayed on the implementation by the harness
  (corpus/C14). -/
section AsIs
variable {K : Type} [Field K] [LinearOrder K] [IsStrictOrderedRing K]

theorem absK_eq_abs (x : K) : absK x = |x| := by
  unfold absK; split
  · rename_i h; exact (abs_of_neg h).symm
  · rename_i h; exact (abs_of_nonneg (not_lt.mp h)).symm

set_option linter.unusedVariables false in
/-- as-is: an arc that starts ON THE EQUATOR (lon 0) and runs through the south pole to a
    southern point at lon π is given the NORTH pole by `_decide_pole_latitude` (it tests
    `lat1 > 0`, false for 0), so every northern point of the lon-π meridian is accepted. -/
theorem asis_pole_branch_equator_start (pi lat1 latp : K) (hpi : 0 < pi)
    (h1 : -(pi / 2) < lat1) (h1' : lat1 < 0) (hp : 0 < latp) (hp' : latp ≤ pi / 2) :
    asIsPoleBranch pi 0 0 pi lat1 pi latp = true := by
  have hext : ¬ (absK (pi / 2 - absK 0) + pi / 2 + absK lat1 < pi) := by
    rw [absK_eq_abs, absK_eq_abs, absK_eq_abs, abs_zero, sub_zero, abs_of_pos (half_pos hpi),
      add_halves, abs_of_neg h1']
    exact not_lt.mpr (by linarith)
  unfold asIsPoleBranch decidePoleLat
  rw [if_neg (fun h => h.2 rfl),
    if_neg (fun h => h.elim (fun h => lt_irrefl _ h.1) (fun h => lt_irrefl _ h.1)),
    if_neg hext, if_neg (lt_irrefl _)]
  simp only [inBetween, hp.le, hp', decide_true, Bool.and_self, Bool.true_or]

set_option linter.unusedVariables false in
/-- as-is: both end points northern (lon 0 and lon π, arc over the north pole): a point on the
    FIRST end point's meridian, south of it but north of the second end point's latitude, is
    accepted because both latitude intervals are tried whatever meridian the point is on. -/
theorem asis_pole_branch_wrong_meridian (pi lat0 lat1 latp : K) (hpi : 0 < pi)
    (h0 : 0 < lat0) (h1 : 0 < lat1) (hlt : latp < lat0) (hge : lat1 ≤ latp)
    (hp' : latp ≤ pi / 2) :
    asIsPoleBranch pi 0 lat0 pi lat1 0 latp = true := by
  unfold asIsPoleBranch
  rw [if_neg (fun h => h.1 rfl), if_pos (Or.inl ⟨h0, h1⟩), if_pos h0]
  simp only [inBetween, hge, hp', decide_true, Bool.and_self, Bool.or_true]

end AsIs

/-! ## Purity: the primitives are functions of the values (call sequences on one arc object)

  `session_state_const` and `session_answers` hold by construction of `step`; the clause checked on
  the implementation is `runWith_pure`. -/
section Session
variable {K : Type} [Field K] [LinearOrder K] [IsStrictOrderedRing K]

/-- the answers depend only on the values handed in (`*_congr`) -/
theorem onArc_congr {a b p a' b' p' : V3 K} (ha : a = a') (hb : b = b') (hp : p = p') :
    OnArc a b p ↔ OnArc a' b' p' := by subst ha hb hp; exact Iff.rfl

theorem intersections_congr {a b c d a' b' c' d' : V3 K} (ha : a = a') (hb : b = b')
    (hc : c = c') (hd : d = d') : intersections a b c d = intersections a' b' c' d' := by
  subst ha hb hc hd; rfl

theorem extreme_congr {a b a' b' : V3 K} (ha : a = a') (hb : b = b') :
    extremeMax a b = extremeMax a' b' ∧ extremeMin a b = extremeMin a' b' := by
  subst ha hb; exact ⟨rfl, rfl⟩

/-- the general loop agrees with the pure one for ANY step function that returns its state
    unchanged and answers from the values – this is the clause the harness checks on the
    implementation (bytes of every argument unchanged, answers equal to those on a fresh copy) -/
theorem runWith_pure (st : Arc K → Op K → Arc K × Ans K)
    (hstate : ∀ s op, (st s op).1 = s) (hans : ∀ s op, (st s op).2 = answer s.1 s.2 op)
    (s : Arc K) (ops : List (Op K)) : runWith st s ops = (s, ops.map (answer s.1 s.2)) := by
  induction ops generalizing s with
  | nil => rfl
  | cons op ops ih =>
    simp only [runWith, List.map_cons]
    rw [hstate s op, ih s, hans s op]

theorem runSession_eq (s : Arc K) (ops : List (Op K)) :
    runSession s ops = (s, ops.map (answer s.1 s.2)) :=
  runWith_pure step (fun _ _ => rfl) (fun _ _ => rfl) s ops

/-- **no history of calls changes the arc object** -/
theorem session_state_const (s : Arc K) (ops : List (Op K)) : (runSession s ops).1 = s := by
  rw [runSession_eq]

/-- **history independence: in EVERY sequence of calls on a shared arc object, every answer is
    the answer on the original values** (whatever was called before, in whatever order). -/
theorem session_answers (s : Arc K) (ops : List (Op K)) :
    (runSession s ops).2 = ops.map (answer s.1 s.2) := by
  rw [runSession_eq]

/-- the answer to a call does not depend on what preceded it -/
theorem session_prefix_irrelevant (s : Arc K) (pre : List (Op K)) (op : Op K) :
    (runSession s (pre ++ [op])).2.getLast? = some (answer s.1 s.2 op) := by
  rw [session_answers, List.map_append, List.map_singleton, List.getLast?_concat]

end Session


/-! ## Floating-point evaluation of the plane residual (standard model of rounding)

  `IsRnd u f`: `|f x − x| ≤ u|x|` for every `x` (no overflow/underflow).  Every operation site may
  round differently (`r i`), which covers round-to-nearest and contracted multiply-adds. -/
section
variable {K : Type} [CommRing K] [LinearOrder K] [IsStrictOrderedRing K]

/-- running error analysis in units of `u`: the computed `x'` is within `k·u` of the exact `x`,
    and `|x| ≤ B`.  The rules below bound every second-order term `j·u²` by `u`, which is sound for
    `j ≤ 64 ≤ 1/u`. -/
def Approx (u x' x k B : K) : Prop := |x' - x| ≤ k * u ∧ |x| ≤ B

theorem Approx.abs_le {u x' x k B : K} (h : Approx u x' x k B) : |x'| ≤ B + k * u := by
  have := abs_add_le (x' - x) x
  rw [sub_add_cancel] at this
  linarith [h.1, h.2]

theorem sq_term_le {u j : K} (hu : 0 ≤ u) (h64 : 64 * u ≤ 1) (hj : j ≤ 64) : u * (j * u) ≤ u :=
  mul_le_of_le_one_right hu (le_trans (mul_le_mul_of_nonneg_right hj hu) h64)

theorem approx_sub {u x' x k Bx y' y l By : K} (h1 : Approx u x' x k Bx) (h2 : Approx u y' y l By) :
    Approx u (x' - y') (x - y) (k + l) (Bx + By) := by
  refine ⟨?_, le_trans (abs_sub _ _) (add_le_add h1.2 h2.2)⟩
  rw [sub_sub_sub_comm, add_mul]
  exact le_trans (abs_sub _ _) (add_le_add h1.1 h2.1)

theorem approx_add {u x' x k Bx y' y l By : K} (h1 : Approx u x' x k Bx) (h2 : Approx u y' y l By) :
    Approx u (x' + y') (x + y) (k + l) (Bx + By) := by
  refine ⟨?_, le_trans (abs_add_le _ _) (add_le_add h1.2 h2.2)⟩
  rw [add_sub_add_comm, add_mul]
  exact le_trans (abs_add_le _ _) (add_le_add h1.1 h2.1)

theorem approx_mul {u : K} (hu : 0 ≤ u) (h64 : 64 * u ≤ 1) {x' x k Bx y' y l By m : K}
    (h1 : Approx u x' x k Bx) (h2 : Approx u y' y l By) (hkl : k * l ≤ 64)
    (hm : k * By + Bx * l + 1 ≤ m) : Approx u (x' * y') (x * y) m (Bx * By) := by
  have hBx : 0 ≤ Bx := le_trans (abs_nonneg _) h1.2
  refine ⟨?_, by rw [abs_mul]; exact mul_le_mul h1.2 h2.2 (abs_nonneg _) hBx⟩
  have e : x' * y' - x * y = (x' - x) * y' + x * (y' - y) := by ring
  have t1 : |(x' - x) * y'| ≤ k * u * (By + l * u) := by
    rw [abs_mul]; exact mul_le_mul h1.1 h2.abs_le (abs_nonneg _) (le_trans (abs_nonneg _) h1.1)
  have t2 : |x * (y' - y)| ≤ Bx * (l * u) := by
    rw [abs_mul]; exact mul_le_mul h1.2 h2.1 (abs_nonneg _) hBx
  rw [e]
  linarith [abs_add_le ((x' - x) * y') (x * (y' - y)), sq_term_le hu h64 hkl,
    mul_le_mul_of_nonneg_right hm hu]

end

section FloatError
variable {K : Type} [Field K] [LinearOrder K] [IsStrictOrderedRing K]

/-- the standard model of one rounding: relative error at most `u` -/
def IsRnd (u : K) (f : K → K) : Prop := ∀ x, |f x - x| ≤ u * |x|

/-- a correctly rounded input coordinate -/
theorem approx_input {u : K} {f : K → K} (hf : IsRnd u f) (hu : 0 ≤ u) {x : K} (hx : |x| ≤ 1) :
    Approx u (f x) x 1 1 :=
  ⟨by rw [one_mul]; exact le_trans (hf x) (mul_le_of_le_one_right hu hx), hx⟩

theorem approx_rnd {u : K} {f : K → K} (hf : IsRnd u f) (hu : 0 ≤ u) (h64 : 64 * u ≤ 1)
    {x' x k B m B' : K} (h : Approx u x' x k B) (hk : k ≤ 64) (hm : k + B + 1 ≤ m) (hB : B ≤ B') :
    Approx u (f x') x m B' := by
  refine ⟨?_, le_trans h.2 hB⟩
  have h1 : |f x' - x| ≤ |f x' - x'| + |x' - x| := abs_sub_le _ _ _
  have h2 : |f x' - x'| ≤ u * (B + k * u) := le_trans (hf x') (mul_le_mul_of_nonneg_left h.abs_le hu)
  linarith [h.1, sq_term_le hu h64 hk, mul_le_mul_of_nonneg_right hm hu]

/-- every coordinate is at most 1 in absolute value (true of unit vectors: `bounded_of_unit`) -/
def Bounded (v : V3 K) : Prop := |v.x| ≤ 1 ∧ |v.y| ≤ 1 ∧ |v.z| ≤ 1

theorem bounded_of_unit {v : V3 K} (h : normSq v = 1) : Bounded v := by
  simp only [normSq, dot] at h
  refine ⟨?_, ?_, ?_⟩ <;> apply abs_le_one_iff_mul_self_le_one.mpr <;>
    linarith [mul_self_nonneg v.x, mul_self_nonneg v.y, mul_self_nonneg v.z]

/-! Error constants of the four stages of `flResidual` (`approx_rnd`: `k + B + 1`, `approx_mul`:
  `k·By + Bx·l + 1`): 3 → 5; 10 → 13; 16 → 19; 38 → 43, 62 → 69.  The largest `k` rounded is 62. -/

/-- rounded product of two rounded input coordinates -/
theorem fl_prod_in {u : K} {f g h : K → K} (hf : IsRnd u f) (hg : IsRnd u g) (hh : IsRnd u h)
    (hu : 0 ≤ u) (h64 : 64 * u ≤ 1) {x y : K} (hx : |x| ≤ 1) (hy : |y| ≤ 1) :
    Approx u (h (f x * g y)) (x * y) 5 1 :=
  approx_rnd hh hu h64
    (approx_mul hu h64 (approx_input hf hu hx) (approx_input hg hu hy) (by norm_num) (le_refl _))
    (by norm_num) (by norm_num) (by norm_num)

/-- one coordinate of the computed cross product -/
theorem fl_cross_comp {u : K} {h : K → K} (hh : IsRnd u h) (hu : 0 ≤ u) (h64 : 64 * u ≤ 1)
    {P1 P2 t1 t2 : K} (h1 : Approx u P1 t1 5 1) (h2 : Approx u P2 t2 5 1) :
    Approx u (h (P1 - P2)) (t1 - t2) 13 2 :=
  approx_rnd hh hu h64 (approx_sub h1 h2) (by norm_num) (by norm_num) (by norm_num)

/-- one rounded term `c_i * p_i` of the computed dot product -/
theorem fl_term {u : K} {f h : K → K} (hf : IsRnd u f) (hh : IsRnd u h) (hu : 0 ≤ u)
    (h64 : 64 * u ≤ 1) {c n p : K} (hc : Approx u c n 13 2) (hp : |p| ≤ 1) :
    Approx u (h (c * f p)) (n * p) 19 2 :=
  approx_rnd hh hu h64
    (approx_mul hu h64 hc (approx_input hf hu hp) (by norm_num) (le_refl _))
    (by norm_num) (by norm_num) (by norm_num)

/-- the two rounded additions of the computed dot product -/
theorem fl_sum3 {u : K} {g h : K → K} (hg : IsRnd u g) (hh : IsRnd u h) (hu : 0 ≤ u)
    (h64 : 64 * u ≤ 1) {q1 q2 q3 t1 t2 t3 : K} (h1 : Approx u q1 t1 19 2)
    (h2 : Approx u q2 t2 19 2) (h3 : Approx u q3 t3 19 2) :
    Approx u (h (g (q1 + q2) + q3)) (t1 + t2 + t3) 69 6 :=
  approx_rnd hh hu h64
    (approx_add (approx_rnd hg hu h64 (approx_add h1 h2) (by norm_num) (le_refl _) (le_refl _)) h3)
    (by norm_num) (by norm_num) (by norm_num)

/-- **forward error of the plane residual**: for points with coordinates in [-1,1] (unit vectors),
    handed over as correctly rounded numbers, with ANY arithmetic whose every operation has
    relative error ≤ u ≤ 1/64, the computed `(a×b)·p` is within `69·u` of the exact value. -/
theorem plane_residual_error {u : K} (r : Nat → K → K) (hr : ∀ i, IsRnd u (r i)) (hu : 0 ≤ u)
    (h64 : 64 * u ≤ 1) (a b p : V3 K) (ha : Bounded a) (hb : Bounded b) (hp : Bounded p) :
    |flResidual r a b p - dot (cross a b) p| ≤ 69 * u := by
  obtain ⟨ax, ay, az⟩ := ha
  obtain ⟨bx, by', bz⟩ := hb
  obtain ⟨px, py, pz⟩ := hp
  -- rounding sites: 0–8 cross, 9–13 dot, 14–16 input `a`, 17–19 `b`, 20–22 `p`
  have cx := fl_cross_comp (hr 2) hu h64
    (fl_prod_in (hr 15) (hr 19) (hr 0) hu h64 ay bz) (fl_prod_in (hr 16) (hr 18) (hr 1) hu h64 az by')
  have cy := fl_cross_comp (hr 5) hu h64
    (fl_prod_in (hr 16) (hr 17) (hr 3) hu h64 az bx) (fl_prod_in (hr 14) (hr 19) (hr 4) hu h64 ax bz)
  have cz := fl_cross_comp (hr 8) hu h64
    (fl_prod_in (hr 14) (hr 18) (hr 6) hu h64 ax by') (fl_prod_in (hr 15) (hr 17) (hr 7) hu h64 ay bx)
  have tx := fl_term (hr 20) (hr 9) hu h64 cx px
  have ty := fl_term (hr 21) (hr 10) hu h64 cy py
  have tz := fl_term (hr 22) (hr 11) hu h64 cz pz
  exact (fl_sum3 (hr 12) (hr 13) hu h64 tx ty tz).1

/-- a plane test with threshold `τ` REJECTS every point whose exact residual exceeds `τ + 69u` -/
theorem plane_test_rejects {u τ : K} (r : Nat → K → K) (hr : ∀ i, IsRnd u (r i)) (hu : 0 ≤ u)
    (h64 : 64 * u ≤ 1) (a b p : V3 K) (ha : Bounded a) (hb : Bounded b) (hp : Bounded p)
    (hm : τ + 69 * u < |dot (cross a b) p|) : τ < |flResidual r a b p| := by
  have h := plane_residual_error r hr hu h64 a b p ha hb hp
  rw [abs_sub_comm] at h
  linarith [abs_sub_abs_le_abs_sub (dot (cross a b) p) (flResidual r a b p)]

/-- a plane test with threshold `τ ≥ 69u` ACCEPTS every point that is exactly on the great circle
    (a threshold of `MACHINE_EPSILON = 2u` is not covered: the on-arc-rejected finding of
    known_findings.d/C14.json, fixes/C14-plane-test-relative-tolerance.patch) -/
theorem plane_test_accepts {u τ : K} (r : Nat → K → K) (hr : ∀ i, IsRnd u (r i)) (hu : 0 ≤ u)
    (h64 : 64 * u ≤ 1) (a b p : V3 K) (ha : Bounded a) (hb : Bounded b) (hp : Bounded p)
    (h0 : dot (cross a b) p = 0) (hτ : 69 * u ≤ τ) : |flResidual r a b p| ≤ τ := by
  have h := plane_residual_error r hr hu h64 a b p ha hb hp
  rw [h0, sub_zero] at h
  exact le_trans h hτ

/-- the margins the driver evaluates (`offCircleBy`, `arcLenMargin` with `tol2 = tol²`) bound the
    exact residual of unit vectors from below by `tol2` -/
theorem residual_of_margins (a b p : V3 K) (ha : normSq a = 1) (hb : normSq b = 1)
    (hp : normSq p = 1) (t2 : K) (ht : 0 ≤ t2) (hoff : offCircleBy t2 a b p = true)
    (hlen : arcLenMargin t2 a b = true) : t2 ≤ |dot (cross a b) p| := by
  simp only [offCircleBy, farFromZero, arcLenMargin, decide_eq_true_eq, ha, hb, hp, mul_one] at hoff hlen
  apply le_of_mul_self_le (abs_nonneg _)
  rw [abs_mul_abs_self]
  exact le_trans (mul_le_mul_of_nonneg_left hlen ht) hoff

/-- **the 1e-6 margin is enough for the plane decision**: for unit points judged by the harness
    (exact margin `tol` from the great circle, arc at least `tol` from degenerate), every
    evaluation in the standard model with `τ + 69u < tol²` rejects an off-circle point, and every
    evaluation with `69u ≤ τ` accepts an on-circle point. -/
theorem margin_decides_plane_test {u τ t2 : K} (r : Nat → K → K) (hr : ∀ i, IsRnd u (r i))
    (hu : 0 ≤ u) (h64 : 64 * u ≤ 1) (a b p : V3 K) (ha : normSq a = 1) (hb : normSq b = 1)
    (hp : normSq p = 1) (ht : 0 ≤ t2) (hlen : arcLenMargin t2 a b = true) :
    (offCircleBy t2 a b p = true → τ + 69 * u < t2 → τ < |flResidual r a b p|) ∧
    (dot (cross a b) p = 0 → 69 * u ≤ τ → |flResidual r a b p| ≤ τ) := by
  refine ⟨fun hoff hτ => ?_, fun h0 hτ => ?_⟩
  · exact plane_test_rejects r hr hu h64 a b p (bounded_of_unit ha) (bounded_of_unit hb)
      (bounded_of_unit hp) (lt_of_lt_of_le hτ (residual_of_margins a b p ha hb hp t2 ht hoff hlen))
  · exact plane_test_accepts r hr hu h64 a b p (bounded_of_unit ha) (bounded_of_unit hb)
      (bounded_of_unit hp) h0 hτ

end FloatError

/-- IEEE doubles (`u = 2⁻⁵³`) and the constants of `uxarray/constants.py`: `h64`; for
    `τ = MACHINE_EPSILON` the rejection hypothesis of `margin_decides_plane_test` (`t2 = 1e-12`) holds
    and its acceptance hypothesis FAILS; for `τ = ERROR_TOLERANCE·|n|·|p|`
    (fixes/C14-plane-test-relative-tolerance.patch; 1 % for the rounding of the norms) acceptance
    holds at the smallest judged `|n| = 1e-6` and the hypothesis of `plane_test_rejects` at `|n| = 1`,
    residual `1e-6`. -/
theorem double_plane_thresholds :
    let u : Rat := 1 / 2 ^ 53
    let eps : Rat := mkRat Gen.MACHINE_EPSILON_num Gen.MACHINE_EPSILON_den
    let et : Rat := mkRat Gen.ERROR_TOLERANCE_num Gen.ERROR_TOLERANCE_den
    64 * u ≤ 1 ∧ eps + 69 * u < 1 / 10 ^ 12 ∧ ¬ (69 * u ≤ eps) ∧
    69 * u ≤ et * (1 / 10 ^ 6) * (99 / 100) ∧ et * (101 / 100) + 69 * u < 1 / 10 ^ 6 := by
  decide +kernel

/-! ## The library's tolerance constants

  `Gen/Constants.lean` is written from `uxarray/constants.py` on every run of the check.  With
  `ERROR_TOLERANCE ≤ 1e-6/50` and `MACHINE_EPSILON ≤ 1e-15` no tolerance of the library can decide
  a case judged at the 1e-6 margin; past that the theorem fails to check. -/
theorem library_tolerances_below_margin :
    0 < Gen.ERROR_TOLERANCE_num ∧
    Gen.ERROR_TOLERANCE_num * 50 * 10 ^ 6 ≤ (Gen.ERROR_TOLERANCE_den : Int) ∧
    0 < Gen.MACHINE_EPSILON_num ∧
    Gen.MACHINE_EPSILON_num * 10 ^ 15 ≤ (Gen.MACHINE_EPSILON_den : Int) := by
  decide +kernel

/-! ## Non-vacuity: concrete inputs meeting the hypotheses (evaluated by the kernel at `ℚ`) -/
section Examples

-- `u x y z r` is `(x, y, z)/r`
private def v (x y z : Int) : V3 Rat := ⟨x, y, z⟩
private def u (x y z r : Int) : V3 Rat := ⟨mkRat x r.toNat, mkRat y r.toNat, mkRat z r.toNat⟩

-- membership, both ways, and its invariances instantiated
example : OnArc (v 1 0 0) (v 0 1 0) (v 1 1 0) ∧ ¬ OnArc (v 1 0 0) (v 0 1 0) (v (-1) 1 0) ∧
    ¬ OnArc (v 1 0 0) (v 0 1 0) (v 1 1 1) := by decide +kernel
example : OnArc (v 0 1 0) (v 1 0 0) (v 1 1 0) := (onArc_swap (v 1 0 0) (v 0 1 0) (v 1 1 0)).mpr (by decide +kernel)
-- a rotation about z by the Pythagorean angle (3/5, 4/5)
example : (mkRat 3 5 : Rat) * mkRat 3 5 + mkRat 4 5 * mkRat 4 5 = 1 := by decide +kernel
example : OnArc (rotZ (mkRat 3 5) (mkRat 4 5) (v 1 0 0)) (rotZ (mkRat 3 5) (mkRat 4 5) (v 0 1 0))
    (rotZ (mkRat 3 5) (mkRat 4 5) (v 1 1 0)) :=
  (onArc_rotZ (by decide +kernel) _ _ _).mpr (by decide +kernel)
-- the cone characterisation has a valid arc to talk about
example : ValidArc (v 1 0 0) (v 0 1 0) := by decide +kernel
-- a crossing: hypotheses of `crossing_one` / `common_point_reported`, and its conclusion observed
example : DiffCircles (v 1 0 0) (v 0 1 0) (v 1 1 1) (v 1 1 (-1)) ∧ v 1 1 0 ≠ zero ∧
    OnBoth (v 1 0 0) (v 0 1 0) (v 1 1 1) (v 1 1 (-1)) (v 1 1 0) := by decide +kernel
example : intersections (v 1 0 0) (v 0 1 0) (v 1 1 1) (v 1 1 (-1)) = [v 2 2 0] := by decide +kernel
-- disjoint arcs on different great circles: nothing reported
example : DiffCircles (v 1 0 0) (v 0 1 0) (v (-1) (-1) 1) (v (-1) (-1) (-1)) ∧
    intersections (v 1 0 0) (v 0 1 0) (v (-1) (-1) 1) (v (-1) (-1) (-1)) = [] := by decide +kernel
-- an arc through the north pole, across the antimeridian, along the equator
example : OnArc (v 3 0 4) (v (-3) 0 4) (v 0 0 1) ∧ OnArc (v (-1) 1 0) (v (-1) (-1) 0) (v (-1) 0 0) ∧
    ¬ OnArc (v (-1) 1 0) (v (-1) (-1) 0) (v 1 0 0) := by decide +kernel
-- extreme latitude: unit end points with the apex inside / not inside
example : normSq (u 3 0 4 5) = 1 ∧ normSq (u 0 3 4 5) = 1 ∧ ValidArc (u 3 0 4 5) (u 0 3 4 5) ∧
    ApexInside (u 3 0 4 5) (u 0 3 4 5) ∧ extremeMax (u 3 0 4 5) (u 0 3 4 5) = (true, mkRat 32 41) := by
  decide +kernel
example : normSq (u 3 4 0 5) = 1 ∧ ValidArc (u 3 4 0 5) (u 0 3 4 5) ∧ ¬ ApexInside (u 3 4 0 5) (u 0 3 4 5) ∧
    extremeMax (u 3 4 0 5) (u 0 3 4 5) = (false, mkRat 4 5) ∧
    extremeMin (u 3 4 0 5) (u 0 3 4 5) = (false, 0) := by decide +kernel
example : NadirInside (u 3 0 (-4) 5) (u 0 3 (-4) 5) ∧
    extremeMin (u 3 0 (-4) 5) (u 0 3 (-4) 5) = (true, mkRat 32 41) := by decide +kernel
-- the closed form of the code: non-degenerate denominator, interior branch taken
example : (u 3 0 4 5).z + (u 0 3 4 5).z ≠ 0 ∧ codeInterior (u 3 0 4 5) (u 0 3 4 5) := by decide +kernel
-- Cartesian witnesses of the two as-is defects (not on the arc, yet accepted before the repair); the
-- first in longitude/latitude with the rational stand-in `pi := 4`
example : ValidArc (v 1 0 0) (v (-4) 0 (-3)) ∧ ¬ OnArc (v 1 0 0) (v (-4) 0 (-3)) (v (-3) 0 4) := by
  decide +kernel
example : ValidArc (v 3 0 4) (v (-4) 0 3) ∧ ¬ OnArc (v 3 0 4) (v (-4) 0 3) (v 4 0 3) := by decide +kernel
example : asIsPoleBranch (4 : Rat) 0 0 4 (-1) 4 1 = true := by decide +kernel

-- purity is not vacuous: a step that leaves the interior chord point in the first end point's slot
-- (the shape of an in-place `node3 = n1; node3 += d*(n2-n1)`) answers 'max' correctly, and the
-- next call on the same object – is the original first end point on the arc? – answers for a
-- truncated arc
example : codeInterior (u 3 0 4 5) (u 0 4 3 5) ∧
    (runWith stepOverwrite (u 3 0 4 5, u 0 4 3 5) [.extMax]).2 =
      (runSession (u 3 0 4 5, u 0 4 3 5) [.extMax]).2 ∧
    (runWith stepOverwrite (u 3 0 4 5, u 0 4 3 5) [.extMax, .within (u 3 0 4 5)]).2.getLast?
      = some (.bool false) ∧
    (runSession (u 3 0 4 5, u 0 4 3 5) [.extMax, .within (u 3 0 4 5)]).2.getLast?
      = some (.bool true) := by decide +kernel
example : (runSession (u 3 0 4 5, u 0 3 4 5) [.extMax, .within (v 1 1 2), .extMin]).1
    = (u 3 0 4 5, u 0 3 4 5) := session_state_const _ _

-- the boundary classes exist: opposite latitudes (denominator exactly 0), a quarter turn, a T-junction
example : normSq (u 3 0 4 5) = 1 ∧ normSq (u 0 3 (-4) 5) = 1 ∧ (u 3 0 4 5).z = -(u 0 3 (-4) 5).z ∧
    ValidArc (u 3 0 4 5) (u 0 3 (-4) 5) ∧
    ((u 3 0 4 5).z + (u 0 3 (-4) 5).z) * (dot (u 3 0 4 5) (u 0 3 (-4) 5) - 1) = 0 ∧
    extremeMax (u 3 0 4 5) (u 0 3 (-4) 5) = (false, mkRat 4 5) := by decide +kernel
example : dot (u 2 (-2) 1 3) (u 1 2 2 3) = 0 ∧ ApexInside (u 2 (-2) 1 3) (u 1 2 2 3) := by decide +kernel
example : DiffCircles (v 1 0 0) (v 0 1 0) (v 1 1 0) (v 0 0 1) ∧ v 1 1 0 ≠ zero ∧
    OnArc (v 1 0 0) (v 0 1 0) (v 1 1 0) ∧
    intersections (v 1 0 0) (v 0 1 0) (v 1 1 0) (v 0 0 1) = [v 1 1 0] := by decide +kernel
example : ¬ DiffCircles (v 1 0 0) (v 0 1 0) (v 1 1 0) (v (-1) 1 0) :=
  same_circle_not_diff _ _ _ _ (by decide +kernel) (by decide +kernel)
-- the float model is not vacuous: a rounding that inflates every result by 1/64 is in the class,
-- unit vectors are bounded, and the margin hypotheses hold for a concrete off-circle point
example : IsRnd (1 / 64 : Rat) (fun x => x * (1 + 1 / 64)) := by
  intro x
  have : x * (1 + 1 / 64) - x = 1 / 64 * x := by ring
  rw [this, abs_mul]
  norm_num
example : normSq (u 3 0 4 5) = 1 ∧ normSq (u 0 4 3 5) = 1 ∧ normSq (u 0 0 1 1) = 1 ∧
    offCircleBy (mkRat 1 (10 ^ 12)) (u 3 0 4 5) (u 0 4 3 5) (u 0 0 1 1) = true ∧
    arcLenMargin (mkRat 1 (10 ^ 12)) (u 3 0 4 5) (u 0 4 3 5) = true := by decide +kernel

end Examples

end UxVerif.C14
