/-
  C04 — spherical and Cartesian coordinates always denote the same points.

  Model: `UxVerif/Model/Coords.lean` at `R tol ct` (`Lemmas/Coords.lean`); it is the REPAIRED
  algorithm (`repaired`, fixes/C04-*.patch); `asIs` is the snapshot's, refuted by `asis_*`.
  * `provenance_agree` (induction `run_spec` on the invariant `Inv`): for every consistent source
    (nodes as lon/lat, xyz or both; each centre kind as neither, lon/lat, xyz or both) and every
    history of accesses, every reported array is present, in range and denotes the true positions;
    hence `reports_agree`, `derived_xyz_unit`, `unsupplied_*`.
  * conversion laws, `deg_range` (any floor field), the round trip `lonlat_of_xyz_of_lonlat`,
    `snap_branch_iff`, `snap_cap_iff_lat`; centroids (`edge_mid_equidistant`, `centroid_*`,
    `edge_centre_*`); the driver's checkers (`sameDirB_iff`, `rangeB_iff`, `closeB_iff`).
  `h0 : 0 < tol` is carried uniformly but needed only off the poles (`lonlat_of_xyz_of_lonlat`,
  `snap_branch_iff`, `snap_cap_iff_lat`) and in `asis_centre_nonunit`.
  Not proved: IEEE rounding / libm (harness/c04.py compares the Float run at 1e-12); storage semantics.
-/
import UxVerif.Lemmas.Coords

import Mathlib.Analysis.Real.Pi.Bounds

namespace UxVerif.C04

open UxVerif.Coords UxVerif.CoordsR List

variable {tol ct : ℝ}

/-! ## Specification -/

/-- the true positions: one unit vector per node, edge centre, face centre -/
structure Truth where
  node : List (V3 ℝ)
  edge : List (V3 ℝ)
  face : List (V3 ℝ)

def Truth.of (T : Truth) : Kind → List (V3 ℝ)
  | .node => T.node
  | .edge => T.edge
  | .face => T.face

def TruthUnit (T : Truth) : Prop := ∀ k, ∀ t ∈ T.of k, normSq t = 1

/-- a reported (lon, lat) is in range and denotes `t` (to the pole snap) -/
def LLok (tol ct : ℝ) (p : Deg ℝ × Deg ℝ) (t : V3 ℝ) : Prop :=
  InRange p ∧ SameDir tol (dirDeg (R tol ct) p) t

/-- `v` is a positive multiple of `t`: same direction, any length -/
def PosMul (v t : V3 ℝ) : Prop := ∃ c : ℝ, 0 < c ∧ v = V3.smul c t

/-- a reported lon/lat array: present, every longitude in [-180, 180], every latitude in [-90, 90],
    every pair denotes the true point (to the pole snap); a reported xyz array: present, every
    vector a positive multiple of the true unit vector, and exactly the unit vector when the source
    did not supply Cartesian coordinates of that kind -/
def ReportOK (tol ct : ℝ) (sup : Kind → Bool) (T : Truth) : Report ℝ → Prop
  | .ll k v => ∃ l, v = some l ∧ Forall₂ (LLok tol ct) l (T.of k)
  | .xyz k v => ∃ xs, v = some xs ∧ Forall₂ PosMul xs (T.of k) ∧ (sup k = false → xs = T.of k)
  | .unit => True

/-- a source-supplied (lon, lat): latitude in range, longitude ≥ -180 but possibly in the 0..360
    convention (anything above 180), denoting exactly the true point -/
def SrcLL (tol ct : ℝ) (p : Deg ℝ × Deg ℝ) (t : V3 ℝ) : Prop :=
  -180 ≤ p.1.val ∧ -90 ≤ p.2.val ∧ p.2.val ≤ 90 ∧ dirDeg (R tol ct) p = t

/-- which Cartesian arrays the source supplies -/
def supOf (src : St ℝ) : Kind → Bool
  | .node => src.nodeXYZ.isSome
  | .edge => src.edgeXYZ.isSome
  | .face => src.faceXYZ.isSome

/-- what is known when the source supplies no face centres: the truth is the normalised mean of
    the corner unit vectors, and no mean vanishes -/
def FreshFace (tol ct : ℝ) (c : Conn) (T : Truth) : Prop :=
  T.face = c.faces.map (faceCentroid (R tol ct) T.node) ∧
  ∀ f ∈ c.faces, normSq (meanV (R tol ct) (f.map (nodeAt T.node))) ≠ 0

def FreshEdge (tol ct : ℝ) (c : Conn) (T : Truth) : Prop :=
  T.edge = c.edges.map (edgeCentroid (R tol ct) T.node) ∧
  ∀ e ∈ c.edges, normSq (meanV (R tol ct) [nodeAt T.node e.1, nodeAt T.node e.2]) ≠ 0

/-- a consistent source: every representation it supplies denotes the true points (node xyz with
    one common radius, centre xyz with any positive lengths); nodes are supplied in at least one
    representation; centres supplied in neither are the normalised means of the corners -/
structure SourceOK (tol ct : ℝ) (c : Conn) (T : Truth) (src : St ℝ) : Prop where
  unit : TruthUnit T
  node_some : src.nodeLL = none → src.nodeXYZ = none → False
  nodeLL : ∀ l, src.nodeLL = some l → Forall₂ (SrcLL tol ct) l T.node
  nodeXYZ : ∀ xs, src.nodeXYZ = some xs → ∃ r : ℝ, 0 < r ∧ xs = T.node.map (V3.smul r)
  edgeLL : ∀ l, src.edgeLL = some l → Forall₂ (SrcLL tol ct) l T.edge
  edgeXYZ : ∀ xs, src.edgeXYZ = some xs → Forall₂ PosMul xs T.edge
  edgeFresh : src.edgeLL = none → src.edgeXYZ = none → FreshEdge tol ct c T
  faceLL : ∀ l, src.faceLL = some l → Forall₂ (SrcLL tol ct) l T.face
  faceXYZ : ∀ xs, src.faceXYZ = some xs → Forall₂ PosMul xs T.face
  faceFresh : src.faceLL = none → src.faceXYZ = none → FreshFace tol ct c T

/-! ## `_set_desired_longitude_range`; one element -/

/-- in range and denotes exactly `t` -/
def LLexact (tol ct : ℝ) (p : Deg ℝ × Deg ℝ) (t : V3 ℝ) : Prop :=
  InRange p ∧ dirDeg (R tol ct) p = t

/-- a (lon, lat) before `_set_desired_longitude_range`: latitude in range, longitude ≥ -180 but
    possibly above 180 (`_populate_node_latlon` stores [0, 360); a source may use either
    convention), denoting `t` in the sense of `P` -/
def LLpre (P : V3 ℝ → V3 ℝ → Prop) (tol ct : ℝ) (p : Deg ℝ × Deg ℝ) (t : V3 ℝ) : Prop :=
  -180 ≤ p.1.val ∧ -90 ≤ p.2.val ∧ p.2.val ≤ 90 ∧ P (dirDeg (R tol ct) p) t

theorem LLpre.wrap {P : V3 ℝ → V3 ℝ → Prop} {p : Deg ℝ × Deg ℝ} {t : V3 ℝ} (h : LLpre P tol ct p t) :
    InRange (⟨wrap180 (R tol ct) p.1.val⟩, p.2) ∧ P (dirDeg (R tol ct) (⟨wrap180 (R tol ct) p.1.val⟩, p.2)) t := by
  obtain ⟨h1, h2⟩ := wrap180_mem (tol := tol) (ct := ct) p.1.val
  exact ⟨⟨h1, h2.le, h.2.1, h.2.2.1⟩, by rw [CoordsR.dirDeg_wrap180]; exact h.2.2.2⟩

/-- the code wraps all longitudes of an array, or none when none exceeds 180; the instances are
    `wrapArr_pre` (`LLok`) and `wrapArr_src` (`SrcLL` to `LLexact`) -/
theorem wrapArr_spec {P : V3 ℝ → V3 ℝ → Prop} {l : LL ℝ} {t : List (V3 ℝ)}
    (h : Forall₂ (LLpre P tol ct) l t) :
    Forall₂ (fun p t => InRange p ∧ P (dirDeg (R tol ct) p) t) (wrapArr (R tol ct) l) t := by
  unfold wrapArr
  split
  · exact forall₂_map_left_iff.mpr (h.imp (fun _ _ h => h.wrap))
  · rename_i hany
    have hall : ∀ p ∈ l, p.1.val ≤ 180 := by
      intro p hp
      by_contra hlt
      exact hany (List.any_eq_true.mpr ⟨p, hp, by simpa [R] using hlt⟩)
    refine ((forall₂_and_left _ _).mpr ⟨hall, h⟩).imp ?_
    rintro p t ⟨h5, h1, h2, h3, h4⟩
    exact ⟨⟨h1, h5, h2, h3⟩, h4⟩

theorem wrapArr_pre {l : LL ℝ} {t : List (V3 ℝ)} (h : Forall₂ (LLpre (SameDir tol) tol ct) l t) :
    Forall₂ (LLok tol ct) (wrapArr (R tol ct) l) t :=
  wrapArr_spec h

theorem wrapArr_src {l : LL ℝ} {t : List (V3 ℝ)} (h : Forall₂ (SrcLL tol ct) l t) :
    Forall₂ (LLexact tol ct) (wrapArr (R tol ct) l) t :=
  wrapArr_spec (P := (· = ·)) h

theorem wrapArr_id {l : LL ℝ} {t : List (V3 ℝ)} (h : Forall₂ (LLok tol ct) l t) :
    wrapArr (R tol ct) l = l := by
  have : l.any (fun p => (R tol ct).lt 180 p.1.val) = false := by
    rw [List.any_eq_false]
    intro p hp
    induction h with
    | nil => cases hp
    | cons hab _ ih =>
      rcases List.mem_cons.mp hp with rfl | hp'
      · simpa [R] using hab.1.2.1
      · exact ih hp'
  simp [wrapArr, this]

theorem llpre_of_unit (h1 : tol < 1) {t : V3 ℝ} (ht : normSq t = 1) :
    LLpre (SameDir tol) tol ct (rad2deg (R tol ct) (lonLatRadOfXyz (R tol ct) false t).1,
      rad2deg (R tol ct) (lonLatRadOfXyz (R tol ct) false t).2) t := by
  obtain ⟨hlon, hlat, hd⟩ := lonLatRad_of_unit (ct := ct) h1 t ht
  exact ⟨le_trans (by norm_num) (mul_nonneg hlon (div_nonneg (by norm_num) Real.pi_pos.le)),
    (abs_le.mp (rad2deg_range hlat)).1, (abs_le.mp (rad2deg_range hlat)).2,
    by rw [dirDeg_rad2deg]; exact hd⟩

theorem lonLatDeg_of_unit (h1 : tol < 1) {t : V3 ℝ} (ht : normSq t = 1) :
    LLok tol ct (lonLatDegOfXyz (R tol ct) false t) t := by
  rw [lonLatDeg_eq]
  exact (llpre_of_unit h1 ht).wrap

theorem llpre_of_smul_unit (h1 : tol < 1) {c : ℝ} (hc : 0 < c) {t : V3 ℝ} (ht : normSq t = 1) :
    LLpre (SameDir tol) tol ct (rad2deg (R tol ct) (lonLatRadOfXyz (R tol ct) true (V3.smul c t)).1,
      rad2deg (R tol ct) (lonLatRadOfXyz (R tol ct) true (V3.smul c t)).2) t := by
  rw [lonLatRad_smul_unit hc ht]
  exact llpre_of_unit h1 ht

theorem map_normalize_posmul {xs tc : List (V3 ℝ)} (h : Forall₂ PosMul xs tc) (hu : ∀ t ∈ tc, normSq t = 1) :
    xs.map (normalizeV (R tol ct)) = tc := by
  apply map_eq_of_forall₂
  refine (forall₂_and_right h hu).imp ?_
  rintro v t ⟨⟨k, hk, rfl⟩, ht⟩
  exact normalize_smul_unit hk ht

/-! ## The invariant -/

/-- the stored pair (lon/lat, xyz) of one kind: whatever is stored denotes the truth `t`; xyz that
    the source did not supply is exactly the unit truth; while xyz is absent the stored lon/lat is
    exact (it came from the source), so xyz can be derived from it without loss -/
structure RepInv (tol ct : ℝ) (sup : Bool) (t : List (V3 ℝ)) (ll : Option (LL ℝ))
    (xyz : Option (List (V3 ℝ))) : Prop where
  ll_ok : ∀ l, ll = some l → Forall₂ (LLok tol ct) l t
  xyz_ok : ∀ xs, xyz = some xs → Forall₂ PosMul xs t
  xyz_derived : sup = false → ∀ xs, xyz = some xs → xs = t
  ll_exact : xyz = none → ∀ l, ll = some l → Forall₂ (LLexact tol ct) l t

section RepInv

variable {b : Bool} {t : List (V3 ℝ)} {ll : Option (LL ℝ)} {xyz : Option (List (V3 ℝ))}

/-- every branch that stores xyz stores the truth itself -/
theorem RepInv.set_xyz (h : RepInv tol ct b t ll xyz) : RepInv tol ct b t ll (some t) where
  ll_ok := h.ll_ok
  xyz_ok := fun _ hx => Option.some.inj hx ▸ forall₂_same.mpr fun v _ => ⟨1, one_pos, (V3.smul_one v).symm⟩
  xyz_derived := fun _ _ hx => (Option.some.inj hx).symm
  ll_exact := nofun

/-- lon/lat derived while xyz is stored need only be right up to the pole snap -/
theorem RepInv.set_ll {xs : List (V3 ℝ)} (h : RepInv tol ct b t ll (some xs)) {l : LL ℝ}
    (hl : Forall₂ (LLok tol ct) l t) : RepInv tol ct b t (some l) (some xs) where
  ll_ok := fun _ e => Option.some.inj e ▸ hl
  xyz_ok := h.xyz_ok
  xyz_derived := h.xyz_derived
  ll_exact := nofun

theorem RepInv.wrap_id (h : RepInv tol ct b t ll xyz) : ll.map (wrapArr (R tol ct)) = ll := by
  cases ll with
  | none => rfl
  | some l => rw [Option.map_some, wrapArr_id (h.ll_ok l rfl)]

theorem RepInv.normalized (h : RepInv tol ct b t ll xyz) (hu : ∀ v ∈ t, normSq v = 1) :
    RepInv tol ct b t ll (xyz.map (List.map (normalizeV (R tol ct)))) := by
  cases xyz with
  | none => exact h
  | some xs =>
    rw [Option.map_some, map_normalize_posmul (h.xyz_ok xs rfl) hu]
    exact h.set_xyz

theorem RepInv.init (hl : ∀ l, ll = some l → Forall₂ (SrcLL tol ct) l t)
    (hx : ∀ xs, xyz = some xs → Forall₂ PosMul xs t) :
    RepInv tol ct xyz.isSome t (ll.map (wrapArr (R tol ct))) xyz where
  ll_ok := fun _ e => by
    obtain ⟨l0, h0, rfl⟩ := Option.map_eq_some_iff.mp e
    exact (wrapArr_src (hl l0 h0)).imp (fun _ _ h => ⟨h.1, Or.inl h.2⟩)
  xyz_ok := hx
  xyz_derived := fun hs _ e => by rw [e] at hs; cases hs
  ll_exact := fun _ _ e => by
    obtain ⟨l0, h0, rfl⟩ := Option.map_eq_some_iff.mp e
    exact wrapArr_src (hl l0 h0)

/-- node coordinates: stored xyz has ONE radius, and at least one representation is stored -/
structure NodeInv (tol ct : ℝ) (sup : Bool) (tn : List (V3 ℝ)) (ll : Option (LL ℝ))
    (xyz : Option (List (V3 ℝ))) : Prop extends RepInv tol ct sup tn ll xyz where
  radius : ∀ xs, xyz = some xs → ∃ r : ℝ, 0 < r ∧ xs = tn.map (V3.smul r)
  present : xyz = none → ∃ l, ll = some l

/-- centre coordinates of one kind; `Fresh` is what is known when the source supplied neither
    representation (the truth is then the normalised mean of the corners) -/
structure CentreInv (tol ct : ℝ) (sup : Bool) (tc : List (V3 ℝ)) (Fresh : Prop) (ll : Option (LL ℝ))
    (xyz : Option (List (V3 ℝ))) : Prop extends RepInv tol ct sup tc ll xyz where
  fresh : ll = none → xyz = none → Fresh

theorem NodeInv.set_xyz (h : NodeInv tol ct b t ll xyz) : NodeInv tol ct b t ll (some t) :=
  ⟨h.toRepInv.set_xyz, fun _ e => ⟨1, one_pos, Option.some.inj e ▸ (map_smul_one t).symm⟩, nofun⟩

theorem NodeInv.normalized (h : NodeInv tol ct b t ll xyz) (hu : ∀ v ∈ t, normSq v = 1) :
    NodeInv tol ct b t ll (xyz.map (List.map (normalizeV (R tol ct)))) := by
  cases xyz with
  | none => exact h
  | some xs =>
    rw [Option.map_some, map_normalize_posmul (h.xyz_ok xs rfl) hu]
    exact h.set_xyz

theorem CentreInv.normalized {F : Prop} (h : CentreInv tol ct b t F ll xyz) (hu : ∀ v ∈ t, normSq v = 1) :
    CentreInv tol ct b t F ll (xyz.map (List.map (normalizeV (R tol ct)))) :=
  ⟨h.toRepInv.normalized hu, fun hl e => h.fresh hl (Option.map_eq_none_iff.mp e)⟩

/-- the shared body of `_populate_face_centroids` / `_populate_edge_centroids` re-establishes the
    invariant with both representations stored -/
theorem populateCentre_inv (h1 : tol < 1) {con : List (V3 ℝ)} {Fresh : Prop}
    (hI : CentreInv tol ct b t Fresh ll xyz) (hu : ∀ v ∈ t, normSq v = 1) (hcon : Fresh → con = t) :
    CentreInv tol ct b t Fresh (some (populateCentre (R tol ct) repaired con ll xyz).1)
      (some (populateCentre (R tol ct) repaired con ll xyz).2) := by
  refine ⟨?_, nofun⟩
  match ll, xyz, hI with
  | none, none, hI =>
    rw [hcon (hI.fresh rfl rfl)]
    exact hI.set_xyz.set_ll
      (forall₂_map_left_iff.mpr (forall₂_same.mpr (fun v hv => lonLatDeg_of_unit h1 (hu v hv))))
  | none, some c, hI =>
    -- the repaired branch: `normalize=True`, then the wrap
    refine hI.set_ll (forall₂_map_left_iff.mpr ((forall₂_and_right (hI.xyz_ok c rfl) hu).imp ?_))
    rintro _ v ⟨⟨k, hk, rfl⟩, ht⟩
    rw [centreLL_repaired, lonLatDeg_eq]
    exact (llpre_of_smul_unit h1 hk ht).wrap
  | some l, none, hI =>
    have hmap : l.map (centreXyzOfLL (R tol ct) repaired) = t :=
      map_eq_of_forall₂ ((hI.ll_exact rfl l rfl).imp (fun _ _ h => h.2))
    simp only [populateCentre, hmap]
    exact hI.set_xyz
  | some l, some c, hI => exact hI.toRepInv

end RepInv

/-- `sup k`: the source supplied xyz of kind `k`.  The `_normalized` flag is not part of the
    invariant: it only gates `normalizeOp`, which keeps it on either branch. -/
structure Inv (tol ct : ℝ) (sup : Kind → Bool) (c : Conn) (T : Truth) (s : St ℝ) : Prop where
  node : NodeInv tol ct (sup .node) T.node s.nodeLL s.nodeXYZ
  edge : CentreInv tol ct (sup .edge) T.edge (FreshEdge tol ct c T) s.edgeLL s.edgeXYZ
  face : CentreInv tol ct (sup .face) T.face (FreshFace tol ct c T) s.faceLL s.faceXYZ

variable {sup : Kind → Bool} {c : Conn} {T : Truth} {s : St ℝ}

theorem wrapRange_id (hI : Inv tol ct sup c T s) : wrapRange (R tol ct) s = s := by
  simp only [wrapRange, hI.node.wrap_id, hI.edge.wrap_id, hI.face.wrap_id]

/-! ## Every access keeps it -/

theorem ensureNodeXYZ_spec (hI : Inv tol ct sup c T s) :
    Inv tol ct sup c T (ensureNodeXYZ (R tol ct) s) ∧
    ∃ r : ℝ, 0 < r ∧ (ensureNodeXYZ (R tol ct) s).nodeXYZ = some (T.node.map (V3.smul r)) := by
  cases h : s.nodeXYZ with
  | some xs =>
    have e : ensureNodeXYZ (R tol ct) s = s := by simp only [ensureNodeXYZ, h]
    obtain ⟨r, hr, hx⟩ := hI.node.radius xs h
    rw [e]
    exact ⟨hI, r, hr, by rw [h, hx]⟩
  | none =>
    obtain ⟨l, hl⟩ := hI.node.present h
    have hmap : l.map (nodeXyzOfLL (R tol ct)) = T.node :=
      map_eq_of_forall₂ ((hI.node.ll_exact h l hl).imp (fun _ _ h => h.2))
    have e : ensureNodeXYZ (R tol ct) s = { s with nodeXYZ := some T.node } := by
      simp only [ensureNodeXYZ, h, hl, hmap]
    rw [e]
    exact ⟨⟨hI.node.set_xyz, hI.edge, hI.face⟩, 1, one_pos, congrArg some (map_smul_one _).symm⟩

/-- the constructed centroids are the truth: rescaling the corners does not change them -/
theorem populate_spec (h1 : tol < 1) (hu : TruthUnit T) (hI : Inv tol ct sup c T s) :
    Inv tol ct sup c T (populateFace (R tol ct) repaired c s) ∧
    Inv tol ct sup c T (populateEdge (R tol ct) repaired c s) := by
  obtain ⟨hI1, r, hr, hx⟩ := ensureNodeXYZ_spec hI
  have hnodes : (ensureNodeXYZ (R tol ct) s).nodeXYZ.getD [] = T.node.map (V3.smul r) := by rw [hx]; rfl
  have hf := populateCentre_inv (ct := ct) h1 hI1.face (hu .face)
    (con := c.faces.map (faceCentroid (R tol ct) (T.node.map (V3.smul r))))
    (fun hF => by rw [hF.1]; exact List.map_congr_left fun f _ => faceCentroid_scaled hr T.node f)
  have he := populateCentre_inv (ct := ct) h1 hI1.edge (hu .edge)
    (con := c.edges.map (edgeCentroid (R tol ct) (T.node.map (V3.smul r))))
    (fun hE => by
      rw [hE.1]
      refine List.map_congr_left fun e _ => ?_
      rw [edgeCentroid_eq_faceCentroid, edgeCentroid_eq_faceCentroid, faceCentroid_scaled hr])
  simp only [populateFace, populateEdge, hnodes]
  exact ⟨⟨hI1.node, hI1.edge, hf⟩, ⟨hI1.node, he, hI1.face⟩⟩

/-- REPAIRED `node_lon` / `node_lat` getter on a grid without node lon/lat: populate, THEN
    `_set_desired_longitude_range` -/
theorem getNodeLL_spec (h1 : tol < 1) (hu : TruthUnit T) (hI : Inv tol ct sup c T s)
    (hn : s.nodeLL = none) :
    Inv tol ct sup c T (wrapRange (R tol ct) (populateNodeLL (R tol ct) s)) ∧
    ∃ l, (wrapRange (R tol ct) (populateNodeLL (R tol ct) s)).nodeLL = some l := by
  cases hx : s.nodeXYZ with
  | none =>
    obtain ⟨l, hl⟩ := hI.node.present hx
    rw [hn] at hl; cases hl
  | some xs =>
    obtain ⟨r, hr, hxs⟩ := hI.node.radius xs hx
    have hl : Forall₂ (LLok tol ct) (wrapArr (R tol ct) (xs.map (nodeLLOfXyz (R tol ct)))) T.node := by
      rw [hxs, List.map_map]
      refine wrapArr_pre (forall₂_map_left_iff.mpr (forall₂_same.mpr fun t ht => ?_))
      rw [Function.comp_apply, nodeLL_eq]
      exact llpre_of_smul_unit h1 hr (hu .node t ht)
    have hN := hI.node
    rw [hx] at hN
    simp only [populateNodeLL, hx, wrapRange, hI.edge.wrap_id, hI.face.wrap_id, Option.map_some]
    exact ⟨⟨⟨hN.set_ll hl, hN.radius, nofun⟩, hI.edge, hI.face⟩, _, rfl⟩

theorem normalizeOp_inv (hu : TruthUnit T) (hI : Inv tol ct sup c T s) :
    Inv tol ct sup c T (normalizeOp (R tol ct) s) := by
  unfold normalizeOp
  split
  · exact hI
  · have hI1 : Inv tol ct sup c T
        (if s.edgeXYZ.isSome || s.faceXYZ.isSome then ensureNodeXYZ (R tol ct) s else s) := by
      split
      · exact (ensureNodeXYZ_spec hI).1
      · exact hI
    generalize (if s.edgeXYZ.isSome || s.faceXYZ.isSome then ensureNodeXYZ (R tol ct) s else s) = s1 at hI1
    dsimp only
    split
    · exact ⟨hI1.node, hI1.edge, hI1.face⟩
    · exact ⟨hI1.node.normalized (hu .node), hI1.edge.normalized (hu .edge), hI1.face.normalized (hu .face)⟩

theorem RepInv.reportLL {k : Kind} {ll : Option (LL ℝ)} {xyz : Option (List (V3 ℝ))}
    (h : RepInv tol ct (sup k) (T.of k) ll xyz) {l : LL ℝ} (hl : ll = some l) :
    ReportOK tol ct sup T (.ll k ll) := ⟨l, hl, h.ll_ok l hl⟩

theorem RepInv.reportXYZ {k : Kind} {ll : Option (LL ℝ)} {xyz : Option (List (V3 ℝ))}
    (h : RepInv tol ct (sup k) (T.of k) ll xyz) {xs : List (V3 ℝ)} (hx : xyz = some xs) :
    ReportOK tol ct sup T (.xyz k xyz) := ⟨xs, hx, h.xyz_ok xs hx, fun hs => h.xyz_derived hs xs hx⟩

theorem lazy_spec {α : Type} {P : St ℝ → Prop} (f : St ℝ → Option α) (g : St ℝ → St ℝ) {s : St ℝ}
    (hs : P s) (hg : f s = none → P (g s) ∧ ∃ a, f (g s) = some a) :
    P (if (f s).isNone then g s else s) ∧ ∃ a, f (if (f s).isNone then g s else s) = some a := by
  cases h : f s with
  | none => simpa only [Option.isNone_none, if_true] using hg h
  | some a => exact ⟨by simpa using hs, a, by simpa using h⟩

/-- one access (any of the six getters, or `normalize_cartesian_coordinates`) keeps the invariant
    and returns a correct report -/
theorem step_spec (h1 : tol < 1) (hu : TruthUnit T) (hI : Inv tol ct sup c T s) (op : Op) :
    Inv tol ct sup c T (step (R tol ct) repaired c s op).1 ∧
    ReportOK tol ct sup T (step (R tol ct) repaired c s op).2 := by
  obtain ⟨hF, hE⟩ := populate_spec h1 hu hI
  match op with
  | .normalize => exact ⟨normalizeOp_inv hu hI, trivial⟩
  | .getLL .node =>
    obtain ⟨hI', l, hl⟩ := lazy_spec (·.nodeLL) (fun s => wrapRange (R tol ct) (populateNodeLL (R tol ct) s))
      hI (getNodeLL_spec h1 hu hI)
    exact ⟨hI', hI'.node.reportLL (k := .node) hl⟩
  | .getXYZ .node =>
    obtain ⟨hI', r, _, hx⟩ := ensureNodeXYZ_spec hI
    exact ⟨hI', hI'.node.reportXYZ (k := .node) hx⟩
  | .getLL .edge =>
    obtain ⟨hI', l, hl⟩ := lazy_spec (·.edgeLL) _ hI (fun _ => ⟨hE, _, rfl⟩)
    -- the unconditional `_set_desired_longitude_range` of this getter is the identity under `Inv`
    simp only [step, wrapRange_id hI']
    exact ⟨hI', hI'.edge.reportLL (k := .edge) hl⟩
  | .getXYZ .edge =>
    obtain ⟨hI', xs, hx⟩ := lazy_spec (·.edgeXYZ) _ hI (fun _ => ⟨hE, _, rfl⟩)
    exact ⟨hI', hI'.edge.reportXYZ (k := .edge) hx⟩
  | .getLL .face =>
    obtain ⟨hI', l, hl⟩ := lazy_spec (·.faceLL)
      (fun s => wrapRange (R tol ct) (populateFace (R tol ct) repaired c s)) hI
      (fun _ => by simp only [wrapRange_id hF]; exact ⟨hF, _, rfl⟩)
    exact ⟨hI', hI'.face.reportLL (k := .face) hl⟩
  | .getXYZ .face =>
    obtain ⟨hI', xs, hx⟩ := lazy_spec (·.faceXYZ) _ hI (fun _ => ⟨hF, _, rfl⟩)
    exact ⟨hI', hI'.face.reportXYZ (k := .face) hx⟩

/-- induction over the access list: every report of every history is correct -/
theorem run_spec (h1 : tol < 1) (hu : TruthUnit T) :
    ∀ (ops : List Op) (s : St ℝ), Inv tol ct sup c T s →
      Inv tol ct sup c T (run (R tol ct) repaired c s ops).1 ∧
      ∀ r ∈ (run (R tol ct) repaired c s ops).2, ReportOK tol ct sup T r
  | [], s, hI => ⟨hI, fun r hr => by cases hr⟩
  | op :: ops, s, hI => by
    obtain ⟨hI', hr⟩ := step_spec h1 hu hI op
    obtain ⟨hI'', hrs⟩ := run_spec h1 hu ops _ hI'
    refine ⟨hI'', ?_⟩
    intro r hmem
    simp only [run, List.mem_cons] at hmem
    rcases hmem with rfl | hmem
    · exact hr
    · exact hrs r hmem

/-! ## The provenance theorem -/

theorem init_inv {src : St ℝ} (hS : SourceOK tol ct c T src) :
    Inv tol ct (supOf src) c T (init (R tol ct) src) where
  node :=
    { toRepInv := RepInv.init hS.nodeLL (fun xs h => by
        obtain ⟨r, hr, rfl⟩ := hS.nodeXYZ xs h
        exact forall₂_map_left_iff.mpr (forall₂_same.mpr fun _ _ => ⟨r, hr, rfl⟩))
      radius := hS.nodeXYZ
      present := fun hx => by
        cases h : src.nodeLL with
        | none => exact (hS.node_some h hx).elim
        | some l => exact ⟨_, congrArg (Option.map _) h⟩ }
  edge := ⟨RepInv.init hS.edgeLL hS.edgeXYZ, fun hl => hS.edgeFresh (Option.map_eq_none_iff.mp hl)⟩
  face := ⟨RepInv.init hS.faceLL hS.faceXYZ, fun hl => hS.faceFresh (Option.map_eq_none_iff.mp hl)⟩

/-- **C04, the provenance theorem.**  For every consistent source (any of the 3 × 4 × 4 provenance
    combinations, longitudes in either convention, any radius), and EVERY history of accesses
    (any order, any repetition, `normalize_cartesian_coordinates` interleaved anywhere), everything
    any getter returns is present, in range, and denotes the true positions. -/
theorem provenance_agree (h0 : 0 < tol) (h1 : tol < 1) {src : St ℝ}
    (hS : SourceOK tol ct c T src) (ops : List Op) :
    ∀ r ∈ (run (R tol ct) repaired c (init (R tol ct) src) ops).2, ReportOK tol ct (supOf src) T r :=
  (run_spec h1 hS.unit ops _ (init_inv hS)).2

/-- two reports of the same kind, one in each coordinate system, taken ANYWHERE in any history,
    denote the same direction: `xyz(deg2rad lon, deg2rad lat)` equals the normalised `(x,y,z)`, or is
    the pole of the snapping cap that contains it; and the longitude is in [-180, 180] -/
theorem reports_agree (h0 : 0 < tol) (h1 : tol < 1) {src : St ℝ}
    (hS : SourceOK tol ct c T src) (ops : List Op) (k : Kind) (l : LL ℝ) (xs : List (V3 ℝ))
    (hl : Report.ll k (some l) ∈ (run (R tol ct) repaired c (init (R tol ct) src) ops).2)
    (hx : Report.xyz k (some xs) ∈ (run (R tol ct) repaired c (init (R tol ct) src) ops).2) :
    Forall₂ (fun p v => InRange p ∧ SameDir tol (dirDeg (R tol ct) p) (normalizeV (R tol ct) v)) l xs := by
  obtain ⟨l', e1, h1'⟩ := provenance_agree h0 h1 hS ops _ hl
  obtain ⟨xs', e2, h2', _⟩ := provenance_agree h0 h1 hS ops _ hx
  cases e1; cases e2
  -- the truth both reports denote is the normalised xyz report
  rw [← map_normalize_posmul (tol := tol) (ct := ct) h2' (hS.unit k)] at h1'
  exact forall₂_map_right_iff.mp h1'

theorem derived_xyz_eq (h1 : tol < 1) {src : St ℝ}
    (hS : SourceOK tol ct c T src) (ops : List Op) {k : Kind} {xs : List (V3 ℝ)}
    (hx : Report.xyz k (some xs) ∈ (run (R tol ct) repaired c (init (R tol ct) src) ops).2)
    (hk : supOf src k = false) : xs = T.of k := by
  obtain ⟨xs', e, _, hd⟩ := (run_spec h1 hS.unit ops _ (init_inv hS)).2 _ hx
  cases e
  exact hd hk

/-- Cartesian coordinates the source did not supply have unit length, in every history -/
theorem derived_xyz_unit (h0 : 0 < tol) (h1 : tol < 1) {src : St ℝ}
    (hS : SourceOK tol ct c T src) (ops : List Op) (k : Kind) (xs : List (V3 ℝ))
    (hx : Report.xyz k (some xs) ∈ (run (R tol ct) repaired c (init (R tol ct) src) ops).2)
    (hk : supOf src k = false) : ∀ v ∈ xs, normSq v = 1 :=
  derived_xyz_eq h1 hS ops hx hk ▸ hS.unit k

/-- face centres the source does not supply are the normalised means of the corner unit vectors -/
theorem unsupplied_face_centre_is_centroid (h0 : 0 < tol) (h1 : tol < 1) {src : St ℝ}
    (hS : SourceOK tol ct c T src) (ops : List Op) (xs : List (V3 ℝ))
    (hx : Report.xyz Kind.face (some xs) ∈ (run (R tol ct) repaired c (init (R tol ct) src) ops).2)
    (hl : src.faceLL = none) (hc : src.faceXYZ = none) :
    xs = c.faces.map (faceCentroid (R tol ct) T.node) :=
  (derived_xyz_eq h1 hS ops hx (congrArg Option.isSome hc)).trans (hS.faceFresh hl hc).1

/-- edge centres the source does not supply are the arc midpoints (see `edge_mid_equidistant`) -/
theorem unsupplied_edge_centre_is_midpoint (h0 : 0 < tol) (h1 : tol < 1) {src : St ℝ}
    (hS : SourceOK tol ct c T src) (ops : List Op) (xs : List (V3 ℝ))
    (hx : Report.xyz Kind.edge (some xs) ∈ (run (R tol ct) repaired c (init (R tol ct) src) ops).2)
    (hl : src.edgeLL = none) (hc : src.edgeXYZ = none) :
    xs = c.edges.map (edgeCentroid (R tol ct) T.node) :=
  (derived_xyz_eq h1 hS ops hx (congrArg Option.isSome hc)).trans (hS.edgeFresh hl hc).1

/-! ### non-vacuity: a concrete source -/

/-- one triangle, nodes supplied in Cartesian form only, radius 2; no centres supplied -/
def src0 : St ℝ :=
  { nodeLL := none, nodeXYZ := some [⟨0, -2, 0⟩, ⟨2, 0, 0⟩, ⟨0, 0, 2⟩], edgeLL := none, edgeXYZ := none,
    faceLL := none, faceXYZ := none, normalized := false }

def conn0 : Conn := { faces := [[0, 1, 2]], edges := [(0, 1), (1, 2), (0, 2)] }

def node0 : List (V3 ℝ) := [⟨0, -1, 0⟩, ⟨1, 0, 0⟩, ⟨0, 0, 1⟩]

noncomputable def truth0 (tol ct : ℝ) : Truth :=
  { node := node0
    edge := conn0.edges.map (edgeCentroid (R tol ct) node0)
    face := conn0.faces.map (faceCentroid (R tol ct) node0) }

theorem freshFace0 : FreshFace tol ct conn0 (truth0 tol ct) := by
  refine ⟨rfl, ?_⟩
  simp only [conn0, List.forall_mem_cons, List.not_mem_nil, false_imp_iff, implies_true, and_true,
    truth0, node0, meanV_eq_smul, List.map, nodeAt, List.getD_cons_zero, List.getD_cons_succ, sumV,
    List.foldr, V3.add, V3.zero, V3.smul, normSq, dot, List.length]
  norm_num

theorem freshEdge0 : FreshEdge tol ct conn0 (truth0 tol ct) := by
  refine ⟨rfl, ?_⟩
  simp only [conn0, List.forall_mem_cons, List.not_mem_nil, false_imp_iff, implies_true, and_true,
    truth0, node0, meanV_pair, nodeAt, List.getD_cons_zero, List.getD_cons_succ, V3.add, V3.smul,
    normSq, dot]
  norm_num

theorem sourceOK0 : SourceOK tol ct conn0 (truth0 tol ct) src0 where
  unit := by
    intro k t ht
    cases k with
    | node =>
      simp only [Truth.of, truth0, node0, List.mem_cons, List.not_mem_nil, or_false] at ht
      rcases ht with rfl | rfl | rfl <;> norm_num [normSq, dot]
    | edge =>
      simp only [Truth.of, truth0, List.mem_map] at ht
      obtain ⟨e, he, rfl⟩ := ht
      exact CoordsR.normalize_unit _ (freshEdge0.2 e he)
    | face =>
      simp only [Truth.of, truth0, List.mem_map] at ht
      obtain ⟨f, hf, rfl⟩ := ht
      exact CoordsR.normalize_unit _ (freshFace0.2 f hf)
  node_some := nofun
  nodeLL := nofun
  nodeXYZ := by
    intro xs h
    refine ⟨2, by norm_num, ?_⟩
    simp only [src0, Option.some.injEq] at h
    subst h
    simp [truth0, node0, V3.smul]
  edgeLL := nofun
  edgeXYZ := nofun
  edgeFresh := fun _ _ => freshEdge0
  faceLL := nofun
  faceXYZ := nofun
  faceFresh := fun _ _ => freshFace0

/-- non-vacuity of `provenance_agree`: its hypotheses are met by `src0`, for every history -/
example (h0 : 0 < tol) (h1 : tol < 1) (ops : List Op) :
    ∀ r ∈ (run (R tol ct) repaired conn0 (init (R tol ct) src0) ops).2,
      ReportOK tol ct (supOf src0) (truth0 tol ct) r :=
  provenance_agree h0 h1 sourceOK0 ops

/-! ## Conversion laws -/

/-! the first eight restate `CoordsR.*` under the property's names -/

/-- derived Cartesian coordinates have unit length -/
theorem xyz_unit (lon lat : Rad ℝ) : normSq (xyzOfLonLatRad (R tol ct) lon lat) = 1 :=
  CoordsR.xyz_unit lon lat

theorem normalize_unit (v : V3 ℝ) (hv : normSq v ≠ 0) : normSq (normalizeV (R tol ct) v) = 1 :=
  CoordsR.normalize_unit v hv

/-- normalising changes lengths only -/
theorem normalize_dir (v : V3 ℝ) (hv : normSq v ≠ 0) :
    ∃ k : ℝ, 0 < k ∧ normalizeV (R tol ct) v = V3.smul k v :=
  CoordsR.normalize_dir v hv

theorem normalize_idem (v : V3 ℝ) (hv : normSq v ≠ 0) :
    normalizeV (R tol ct) (normalizeV (R tol ct) v) = normalizeV (R tol ct) v :=
  CoordsR.normalize_idem v hv

/-- xyz supplied, lon/lat derived: `(arg (x + iy), arcsin z)` maps back to exactly `(x, y, z)` -/
theorem xyz_of_lonlat_of_xyz (v : V3 ℝ) (hu : normSq v = 1) (hxy : v.x ^ 2 + v.y ^ 2 ≠ 0) :
    xyzOfLonLatRad (R tol ct) ⟨Complex.arg ⟨v.x, v.y⟩⟩ ⟨Real.arcsin v.z⟩ = v :=
  xyz_arg_arcsin v hu

theorem xyz_mod_two_pi (lon lat : ℝ) :
    xyzOfLonLatRad (R tol ct) ⟨(R tol ct).fmod lon (2 * (R tol ct).pi)⟩ ⟨lat⟩
      = xyzOfLonLatRad (R tol ct) ⟨lon⟩ ⟨lat⟩ :=
  CoordsR.xyz_mod_two_pi lon lat

theorem dirDeg_wrap180 (d : ℝ) (lat : Deg ℝ) :
    dirDeg (R tol ct) (⟨wrap180 (R tol ct) d⟩, lat) = dirDeg (R tol ct) (⟨d⟩, lat) :=
  CoordsR.dirDeg_wrap180 d lat

theorem deg2rad_rad2deg (r : Rad ℝ) : deg2rad (R tol ct) (rad2deg (R tol ct) r) = r :=
  CoordsR.deg2rad_rad2deg r

/-- `_xyz_to_lonlat_deg(x, y, z)` (normalize=True) of ANY non-zero vector: longitude in [-180,180],
    latitude in [-90,90], and the pair denotes the vector's direction (or the pole of the snapping
    cap containing it) -/
theorem lonlat_of_xyz_agree (h0 : 0 < tol) (h1 : tol < 1) (v : V3 ℝ) (hv : normSq v ≠ 0) :
    InRange (lonLatDegOfXyz (R tol ct) true v) ∧
    SameDir tol (dirDeg (R tol ct) (lonLatDegOfXyz (R tol ct) true v)) (normalizeV (R tol ct) v) := by
  rw [lonLatDeg_norm v hv]
  exact lonLatDeg_of_unit h1 (CoordsR.normalize_unit v hv)

/-- lon/lat supplied, xyz derived: consistent by construction, and unit -/
theorem lonlat_supplied_agree (p : Deg ℝ × Deg ℝ) :
    nodeXyzOfLL (R tol ct) p = dirDeg (R tol ct) p ∧ normSq (nodeXyzOfLL (R tol ct) p) = 1 :=
  ⟨rfl, CoordsR.xyz_unit _ _⟩

example : normSq (xyzOfLonLatRad (R tol ct) ⟨2⟩ ⟨1⟩) = 1 := xyz_unit _ _

example : normSq (normalizeV (R tol ct) ⟨3, 0, 4⟩) = 1 := normalize_unit _ (by norm_num [normSq, dot])

example : xyzOfLonLatRad (R tol ct) ⟨Complex.arg ⟨0, -1⟩⟩ ⟨Real.arcsin 0⟩ = ⟨0, -1, 0⟩ :=
  xyz_of_lonlat_of_xyz ⟨0, -1, 0⟩ (by norm_num [normSq, dot]) (by norm_num)

example (h0 : 0 < tol) (h1 : tol < 1) :
    InRange (lonLatDegOfXyz (R tol ct) true ⟨0, -7, 0⟩) :=
  (lonlat_of_xyz_agree h0 h1 ⟨0, -7, 0⟩ (by norm_num [normSq, dot])).1

theorem deg_range {K : Type} [Field K] [LinearOrder K] [IsStrictOrderedRing K] [FloorRing K]
    (T : Ops K) (hT : ∀ a b, T.fmod a b = a - b * (⌊a / b⌋ : ℤ)) (d : K) :
    -180 ≤ wrap180 T d ∧ wrap180 T d < 180 :=
  wrap180_range T hT d

/-- exact rational instantiation (only `fmod`, `lt`, `abs` are meaningful) -/
def Q : Ops ℚ where
  sin := id
  cos := id
  atan2 := fun _ _ => 0
  asin := id
  sqrt := id
  abs := fun x => |x|
  pi := 0
  fmod := fun a b => a - b * (⌊a / b⌋ : ℤ)
  lt := fun a b => decide (a < b)
  ofNat := fun n => (n : ℚ)
  tol := 0
  closeTol := 0

theorem deg_range_rat (d : ℚ) : -180 ≤ wrap180 Q d ∧ wrap180 Q d < 180 :=
  deg_range Q (fun _ _ => rfl) d

example : wrap180 Q 190 = -170 := by decide +kernel

theorem deg_range_real (d : ℝ) : -180 ≤ wrap180 (R tol ct) d ∧ wrap180 (R tol ct) d < 180 :=
  deg_range (R tol ct) (fun _ _ => rfl) d

/-! ### the pole snap: `p·q > 1 − snap`, i.e. the angle is below `arccos (1 − snap)` -/

theorem sameDir_dot {snap : ℝ} (hs : 0 < snap) {p q : V3 ℝ} (h : SameDir snap p q) (hq : normSq q = 1) :
    1 - snap < dot p q := by
  rcases h with rfl | ⟨h, rfl⟩ | ⟨h, rfl⟩
  · have : dot p p = 1 := hq
    rw [this]; linarith
  · simpa [dot] using h
  · simpa [dot] using h

example : SameDir (1 / 100000000) ⟨0, 0, 1⟩ ⟨0, 0, 1⟩ := Or.inl rfl

/-! ### lon/lat → xyz → lon/lat -/

/-- the seam convention: +180 is reported as -180 -/
theorem wrap180_seam : wrap180 (R tol ct) 180 = -180 :=
  wrap180_unique 1 (by norm_num) le_rfl (by norm_num)

example : wrap180 (R tol ct) (190 - (1 : ℤ) * 360) = wrap180 (R tol ct) 190 := wrap180_periodic 190 1

example : wrap180 (R tol ct) (-180) = -180 := wrap180_of_mem _ (by norm_num) (by norm_num)

/-- `_xyz_to_lonlat_rad` takes the snap branch (longitude 0, latitude ±π/2) exactly when
    `|z| > 1 − ERROR_TOLERANCE`; otherwise it returns `(arctan2(y, x) mod 2π, arcsin z)` -/
theorem snap_branch_iff (h0 : 0 < tol) (v : V3 ℝ) (hu : normSq v = 1) :
    (lonLatRadOfXyz (R tol ct) false v = (⟨0⟩, ⟨signK (R tol ct) v.z * Real.pi / 2⟩) ∧ 1 - tol < |v.z|) ∨
    (lonLatRadOfXyz (R tol ct) false v
        = (⟨(R tol ct).fmod (Complex.arg ⟨v.x, v.y⟩) (2 * (R tol ct).pi)⟩, ⟨Real.arcsin v.z⟩) ∧
      |v.z| ≤ 1 - tol ∧ v.x ^ 2 + v.y ^ 2 ≠ 0) := by
  by_cases hm : 1 - tol < |v.z|
  · exact Or.inl ⟨lonLatRad_mask v hm, hm⟩
  · refine Or.inr ⟨lonLatRad_nomask v hm, not_lt.mp hm, ?_⟩
    -- outside the cap `z² < 1`, so `x² + y² = 1 − z² > 0`
    have hu' : v.x * v.x + v.y * v.y + v.z * v.z = 1 := hu
    have hz : v.z ^ 2 < 1 := (sq_lt_one_iff_abs_lt_one v.z).mpr (by linarith [not_lt.mp hm])
    have : v.x ^ 2 + v.y ^ 2 = 1 - v.z ^ 2 := by linear_combination hu'
    rw [this]
    exact (sub_pos.mpr hz).ne'

/-- in terms of the latitude φ ∈ [-π/2, π/2] of the point: the snap cap is `|φ| > arcsin (1 − tol)`,
    i.e. within `arccos (1 − tol)` of a pole -/
theorem snap_cap_iff_lat (h0 : 0 < tol) (h1 : tol < 1) (φ : ℝ) (hlo : -(Real.pi / 2) ≤ φ) (hhi : φ ≤ Real.pi / 2) :
    1 - tol < |Real.sin φ| ↔ Real.arcsin (1 - tol) < |φ| := by
  have hφ : |φ| ≤ Real.pi / 2 := abs_le.mpr ⟨hlo, hhi⟩
  have hpi := Real.pi_pos
  rw [Real.abs_sin_eq_sin_abs_of_abs_le_pi (hφ.trans (half_le_self hpi.le)),
    Real.arcsin_lt_iff_lt_sin
      ⟨(neg_lt_zero.mpr one_pos).le.trans (sub_nonneg.mpr h1.le), sub_le_self 1 h0.le⟩
      ⟨(neg_nonpos.mpr (half_pos hpi).le).trans (abs_nonneg φ), hφ⟩]

/-- **round trip with the convention the code uses.**  For EVERY (lon, lat) in degrees with
    lat ∈ [-90, 90] — any real longitude: both conventions, the ±180 seam, the poles —
    `_xyz_to_lonlat_deg(_lonlat_rad_to_xyz(deg2rad lon, deg2rad lat))` is
    * `(0, ±90)` when the point lies in the snap cap (the supplied longitude is forgotten),
    * `(wrap180 lon, lat)` otherwise: the SAME latitude and the representative of the longitude in
      [-180, 180) (so lon itself when -180 ≤ lon < 180, and -180 for lon = 180). -/
theorem lonlat_of_xyz_of_lonlat (h0 : 0 < tol) (h1 : tol < 1) (p : Deg ℝ × Deg ℝ)
    (hlo : -90 ≤ p.2.val) (hhi : p.2.val ≤ 90) :
    lonLatDegOfXyz (R tol ct) false (dirDeg (R tol ct) p) =
      if 1 - tol < |Real.sin (p.2.val * (Real.pi / 180))| then
        ((⟨0⟩ : Deg ℝ), (⟨if 0 < p.2.val then 90 else -90⟩ : Deg ℝ))
      else ((⟨wrap180 (R tol ct) p.1.val⟩ : Deg ℝ), p.2) := by
  obtain ⟨⟨lon⟩, ⟨lat⟩⟩ := p
  simp only at hlo hhi ⊢
  have hpi := Real.pi_pos
  have hk : 0 < Real.pi / 180 := div_pos hpi (by norm_num)
  obtain ⟨hφlo, hφhi⟩ := abs_le.mp (deg2rad_range (abs_le.mpr ⟨hlo, hhi⟩))
  have hφlo' : -Real.pi < lat * (Real.pi / 180) := (neg_lt_neg (half_lt_self hpi)).trans_le hφlo
  have hφhi' : lat * (Real.pi / 180) < Real.pi := hφhi.trans_lt (half_lt_self hpi)
  have hz : (dirDeg (R tol ct) (⟨lon⟩, ⟨lat⟩)).z = Real.sin (lat * (Real.pi / 180)) := rfl
  split
  · -- in the cap: `sin φ ≠ 0`, and its sign is the sign of `lat`
    rename_i hm
    split
    · rename_i hpos
      rw [lonLatDeg_mask hm, hz, signK_pos (Real.sin_pos_of_pos_of_lt_pi (mul_pos hpos hk) hφhi'), one_mul]
    · rename_i hpos
      have hneg : lat * (Real.pi / 180) < 0 := by
        rcases lt_or_eq_of_le (not_lt.mp hpos) with h | h
        · exact mul_neg_of_neg_of_pos h hk
        · exact absurd (by rw [h, zero_mul, Real.sin_zero]) (cap_ne_zero h1 hm)
      rw [lonLatDeg_mask hm, hz, signK_neg (Real.sin_neg_of_neg_of_neg_pi_lt hneg hφlo'), neg_one_mul]
  · -- outside the cap `cos φ > 0`, so `arg` returns the longitude up to whole turns, which
    -- `mod 2π` and the ±180 wrap reduce to the representative in [-180, 180)
    rename_i hm
    have hcos : 0 < Real.cos (lat * (Real.pi / 180)) := by
      rw [Real.cos_eq_sqrt_one_sub_sin_sq hφlo hφhi]
      exact Real.sqrt_pos.mpr (sub_pos.mpr ((sq_lt_one_iff_abs_lt_one _).mpr
        ((not_lt.mp hm).trans_lt (sub_lt_self 1 h0))))
    obtain ⟨k, hk'⟩ : ∃ k : ℤ, Complex.arg ⟨(dirDeg (R tol ct) (⟨lon⟩, ⟨lat⟩)).x, (dirDeg (R tol ct) (⟨lon⟩, ⟨lat⟩)).y⟩
        = lon * (Real.pi / 180) + k * (2 * Real.pi) := arg_cos_sin _ hcos
    rw [lonLatDeg_nomask hm, hk', wrap180_rad2deg_fmod, hz, Real.arcsin_sin hφlo hφhi]
    exact congrArg (Prod.mk _) (rad2deg_deg2rad ⟨lat⟩)

/-- the same with `normalize=True` (the default of `_xyz_to_lonlat_deg`): the derived vector is
    unit, so the double normalisation changes nothing -/
theorem lonlat_of_xyz_of_lonlat_norm (h0 : 0 < tol) (h1 : tol < 1) (p : Deg ℝ × Deg ℝ)
    (hlo : -90 ≤ p.2.val) (hhi : p.2.val ≤ 90) :
    lonLatDegOfXyz (R tol ct) true (dirDeg (R tol ct) p) =
      if 1 - tol < |Real.sin (p.2.val * (Real.pi / 180))| then
        ((⟨0⟩ : Deg ℝ), (⟨if 0 < p.2.val then 90 else -90⟩ : Deg ℝ))
      else ((⟨wrap180 (R tol ct) p.1.val⟩ : Deg ℝ), p.2) := by
  have hu : normSq (dirDeg (R tol ct) p) = 1 := CoordsR.xyz_unit _ _
  rw [lonLatDeg_norm _ (by rw [hu]; norm_num), normalize_of_unit _ hu]
  exact lonlat_of_xyz_of_lonlat h0 h1 p hlo hhi

/-- away from the caps and with the longitude already in [-180, 180) the round trip is the identity -/
theorem lonlat_roundtrip_id (h0 : 0 < tol) (h1 : tol < 1) (p : Deg ℝ × Deg ℝ)
    (hlo : -90 ≤ p.2.val) (hhi : p.2.val ≤ 90) (h180 : -180 ≤ p.1.val) (h180' : p.1.val < 180)
    (hcap : |Real.sin (p.2.val * (Real.pi / 180))| ≤ 1 - tol) :
    lonLatDegOfXyz (R tol ct) false (dirDeg (R tol ct) p) = p := by
  rw [lonlat_of_xyz_of_lonlat h0 h1 p hlo hhi, if_neg (not_lt.mpr hcap), wrap180_of_mem _ h180 h180']

/-! non-vacuity: the seam, a pole given with a non-zero longitude, the 0..360 convention -/

example (h0 : 0 < tol) (h1 : tol < 1) :
    lonLatDegOfXyz (R tol ct) false (dirDeg (R tol ct) (⟨180⟩, ⟨0⟩)) = (⟨-180⟩, ⟨0⟩) := by
  rw [lonlat_of_xyz_of_lonlat h0 h1 _ (by norm_num) (by norm_num)]
  have : ¬ 1 - tol < |Real.sin ((0 : ℝ) * (Real.pi / 180))| := by
    rw [zero_mul, Real.sin_zero, abs_zero]; exact not_lt.mpr (sub_nonneg.mpr h1.le)
  rw [if_neg this, wrap180_seam]

example (h0 : 0 < tol) (h1 : tol < 1) :
    lonLatDegOfXyz (R tol ct) false (dirDeg (R tol ct) (⟨37⟩, ⟨90⟩)) = (⟨0⟩, ⟨90⟩) := by
  rw [lonlat_of_xyz_of_lonlat h0 h1 _ (by norm_num) (by norm_num)]
  have e : (90 : ℝ) * (Real.pi / 180) = Real.pi / 2 := by ring
  have : 1 - tol < |Real.sin ((90 : ℝ) * (Real.pi / 180))| := by
    rw [e, Real.sin_pi_div_two, abs_one]; linarith
  rw [if_pos this]; norm_num

example (h0 : 0 < tol) (h1 : tol < 1) :
    lonLatDegOfXyz (R tol ct) false (dirDeg (R tol ct) (⟨270⟩, ⟨0⟩)) = (⟨-90⟩, ⟨0⟩) := by
  rw [lonlat_of_xyz_of_lonlat h0 h1 _ (by norm_num) (by norm_num)]
  have : ¬ 1 - tol < |Real.sin ((0 : ℝ) * (Real.pi / 180))| := by
    rw [zero_mul, Real.sin_zero, abs_zero]; exact not_lt.mpr (sub_nonneg.mpr h1.le)
  rw [if_neg this, wrap180_unique (e := -90) 1 (by norm_num) (by norm_num) (by norm_num)]

example (h0 : 0 < tol) (h1 : tol < 1) : 1 - tol < |Real.sin (Real.pi / 2)| ↔ Real.arcsin (1 - tol) < |Real.pi / 2| :=
  snap_cap_iff_lat h0 h1 _ (by linarith [Real.pi_pos]) le_rfl

example (h0 : 0 < tol) (h1 : tol < 1) :
    lonLatRadOfXyz (R tol ct) false ⟨1, 0, 0⟩
      = (⟨(R tol ct).fmod (Complex.arg ⟨1, 0⟩) (2 * (R tol ct).pi)⟩, ⟨Real.arcsin 0⟩) := by
  rcases snap_branch_iff (ct := ct) h0 ⟨1, 0, 0⟩ (by norm_num [normSq, dot]) with ⟨_, h⟩ | ⟨h, _⟩
  · simp at h; linarith
  · exact h

/-! ## Centroids -/

/-- an edge centre is the arc midpoint: equidistant from both ends and a positive multiple of a + b -/
theorem edge_mid_equidistant (a b : V3 ℝ) (ha : normSq a = 1) (hb : normSq b = 1)
    (hab : normSq (meanV (R tol ct) [a, b]) ≠ 0) :
    dot (normalizeV (R tol ct) (meanV (R tol ct) [a, b])) a
      = dot (normalizeV (R tol ct) (meanV (R tol ct) [a, b])) b ∧
    ∃ k : ℝ, 0 < k ∧ normalizeV (R tol ct) (meanV (R tol ct) [a, b]) = V3.smul k (V3.add a b) := by
  obtain ⟨c, hc, hm⟩ := CoordsR.normalize_dir (tol := tol) (ct := ct) _ hab
  rw [hm, meanV_pair, V3.smul_smul]
  have ha' : a.x * a.x + a.y * a.y + a.z * a.z = 1 := ha
  have hb' : b.x * b.x + b.y * b.y + b.z * b.z = 1 := hb
  refine ⟨?_, c * (1 / 2), by positivity, rfl⟩
  -- both sides are `k (1 + a·b)`
  simp only [dot, V3.smul, V3.add]
  linear_combination (c * (1 / 2)) * ha' - (c * (1 / 2)) * hb'

example : dot (normalizeV (R tol ct) (meanV (R tol ct) [⟨1, 0, 0⟩, ⟨0, 1, 0⟩])) ⟨1, 0, 0⟩
        = dot (normalizeV (R tol ct) (meanV (R tol ct) [⟨1, 0, 0⟩, ⟨0, 1, 0⟩])) ⟨0, 1, 0⟩ :=
  (edge_mid_equidistant ⟨1, 0, 0⟩ ⟨0, 1, 0⟩ (by norm_num [normSq, dot]) (by norm_num [normSq, dot])
    (by norm_num [meanV_pair, V3.add, V3.smul, normSq, dot])).1

/-- the model's face centre is, by definition, the normalised mean of the face's corners -/
theorem centroid_def (nodes : List (V3 ℝ)) (f : List Nat) :
    faceCentroid (R tol ct) nodes f = normalizeV (R tol ct) (meanV (R tol ct) (f.map (nodeAt nodes))) := rfl

theorem centroid_unit (nodes : List (V3 ℝ)) (f : List Nat)
    (h : normSq (meanV (R tol ct) (f.map (nodeAt nodes))) ≠ 0) :
    normSq (faceCentroid (R tol ct) nodes f) = 1 := CoordsR.normalize_unit _ h

/-- corners given with any common radius give the centroid of the corner UNIT vectors -/
theorem centroid_radius_invariant (r : ℝ) (hr : 0 < r) (tn : List (V3 ℝ)) (f : List Nat)
    (h : normSq (meanV (R tol ct) (f.map (nodeAt tn))) ≠ 0) :
    faceCentroid (R tol ct) (tn.map (V3.smul r)) f = faceCentroid (R tol ct) tn f :=
  faceCentroid_scaled hr tn f

/-- a face centroid reads only the node entries its own row names: two node arrays that agree on
    the corners of `f` give the same centroid (whatever else they contain, e.g. nodes no face uses) -/
theorem centroid_row_local (nodes nodes' : List (V3 ℝ)) (f : List Nat)
    (h : ∀ i ∈ f, nodeAt nodes' i = nodeAt nodes i) :
    faceCentroid (R tol ct) nodes' f = faceCentroid (R tol ct) nodes f := by
  simp only [faceCentroid]
  rw [List.map_congr_left h]

/-- invariance under any renumbering `ρ` of the nodes that carries the corners' positions along -/
theorem centroid_renumber (ρ : Nat → Nat) (nodes nodes' : List (V3 ℝ)) (f : List Nat)
    (h : ∀ i ∈ f, nodeAt nodes' (ρ i) = nodeAt nodes i) :
    faceCentroid (R tol ct) nodes' (f.map ρ) = faceCentroid (R tol ct) nodes f := by
  simp only [faceCentroid, List.map_map]
  have : f.map (nodeAt nodes' ∘ ρ) = f.map (nodeAt nodes) := List.map_congr_left (fun i hi => h i hi)
  rw [this]

/-- the numbering after inserting `k` extra nodes at position `pos` -/
def shiftAt (pos k : Nat) (i : Nat) : Nat := if i < pos then i else i + k

theorem nodeAt_insert (nodes extra : List (V3 ℝ)) (pos i : Nat) (hpos : pos ≤ nodes.length) :
    nodeAt (nodes.take pos ++ extra ++ nodes.drop pos) (shiftAt pos extra.length i) = nodeAt nodes i := by
  have hlen : (nodes.take pos).length = pos := List.length_take_of_le hpos
  simp only [nodeAt, shiftAt, List.getD_eq_getElem?_getD]
  congr 1
  split
  · rename_i h
    rw [List.append_assoc, List.getElem?_append_left (by rwa [hlen]), List.getElem?_take_of_lt h]
  · rename_i h
    have hle : pos ≤ i := Nat.le_of_not_lt h
    rw [List.getElem?_append_right (by rw [List.length_append, hlen]; exact Nat.add_le_add_right hle _),
      List.length_append, hlen, List.getElem?_drop, Nat.add_sub_add_right, Nat.add_sub_cancel' hle]

/-- nodes that no face uses are irrelevant wherever they are numbered: inserting any extra nodes at
    the start, in the middle or at the END of the node arrays (and renumbering the table
    accordingly) leaves every face centroid unchanged -/
theorem centroid_orphans_irrelevant (nodes extra : List (V3 ℝ)) (pos : Nat) (hpos : pos ≤ nodes.length)
    (f : List Nat) :
    faceCentroid (R tol ct) (nodes.take pos ++ extra ++ nodes.drop pos) (f.map (shiftAt pos extra.length))
      = faceCentroid (R tol ct) nodes f :=
  centroid_renumber _ _ _ _ (fun i _ => nodeAt_insert nodes extra pos i hpos)

theorem edge_centre_row_local (nodes nodes' : List (V3 ℝ)) (e : Nat × Nat)
    (h1 : nodeAt nodes' e.1 = nodeAt nodes e.1) (h2 : nodeAt nodes' e.2 = nodeAt nodes e.2) :
    edgeCentroid (R tol ct) nodes' e = edgeCentroid (R tol ct) nodes e := by
  simp only [edgeCentroid, h1, h2]

theorem edge_centre_orphans_irrelevant (nodes extra : List (V3 ℝ)) (pos : Nat) (hpos : pos ≤ nodes.length)
    (e : Nat × Nat) :
    edgeCentroid (R tol ct) (nodes.take pos ++ extra ++ nodes.drop pos)
        (shiftAt pos extra.length e.1, shiftAt pos extra.length e.2)
      = edgeCentroid (R tol ct) nodes e := by
  simp only [edgeCentroid, nodeAt_insert nodes extra _ _ hpos]

/-- non-vacuity: an unused node appended LAST (seeded change C04e, seeded/C04e) and one put FIRST -/
example (a b c z : V3 ℝ) :
    faceCentroid (R tol ct) [a, b, c, z] [0, 1, 2] = faceCentroid (R tol ct) [a, b, c] [0, 1, 2] :=
  centroid_orphans_irrelevant [a, b, c] [z] 3 (by simp) [0, 1, 2]

example (a b c z : V3 ℝ) :
    faceCentroid (R tol ct) [z, a, b, c] [1, 2, 3] = faceCentroid (R tol ct) [a, b, c] [0, 1, 2] :=
  centroid_orphans_irrelevant [a, b, c] [z] 0 (by simp) [0, 1, 2]

example (a b z : V3 ℝ) :
    edgeCentroid (R tol ct) [a, z, b] (0, 2) = edgeCentroid (R tol ct) [a, b] (0, 1) :=
  edge_centre_orphans_irrelevant [a, b] [z] 1 (by simp) (0, 1)

/-! ## The driver's checkers decide the specification (tolerance 0) -/

theorem leB_iff (a b : ℝ) : leB (R tol ct) a b = true ↔ a ≤ b := by
  simp [leB, R]

theorem closeB_iff (p q : V3 ℝ) : closeB (R tol ct) 0 p q = true ↔ p = q := by
  simp only [closeB, Bool.and_eq_true, leB_iff]
  simp only [R, abs_nonpos_iff, sub_eq_zero]
  constructor
  · rintro ⟨⟨hx, hy⟩, hz⟩; exact V3.ext' hx hy hz
  · rintro rfl; exact ⟨⟨rfl, rfl⟩, rfl⟩

theorem sameDirB_iff (snap : ℝ) (p q : V3 ℝ) :
    sameDirB (R tol ct) 0 snap p q = true ↔ SameDir snap p q := by
  simp only [sameDirB, Bool.or_eq_true, Bool.and_eq_true, closeB_iff, SameDir]
  simp [R, or_assoc]

theorem rangeB_iff (p : Deg ℝ × Deg ℝ) : rangeB (R tol ct) p = true ↔ InRange p := by
  simp only [rangeB, Bool.and_eq_true, leB_iff, InRange, and_assoc]

example : sameDirB (R tol ct) 0 (1 / 2) ⟨0, 0, 1⟩ ⟨3 / 5, 0, 4 / 5⟩ = true :=
  (sameDirB_iff _ _ _).mpr (Or.inr (Or.inl ⟨by norm_num, rfl⟩))

/-! ## `asIs` is refuted -/

/-- `nodeWrap = false` (fix C04-node-lon-range): for a node supplied in Cartesian form at longitude -90°, with any radius `c`,
    `_populate_node_latlon` stores longitude 270°, outside [-180, 180]; the unrepaired getter
    returns it as it is (`asis_provenance_fails`) because it wraps BEFORE populating -/
theorem asis_node_lon_out_of_range (h1 : tol < 1) {c : ℝ} (hc : 0 < c) :
    (nodeLLOfXyz (R tol ct) ⟨0, -c, 0⟩).1.val = 270 := by
  have e : (⟨0, -c, 0⟩ : V3 ℝ) = V3.smul c ⟨0, -1, 0⟩ := by simp [V3.smul]
  have hu : normSq (⟨0, -1, 0⟩ : V3 ℝ) = 1 := by norm_num [normSq, dot]
  have hm : ¬ 1 - tol < |(⟨0, -1, 0⟩ : V3 ℝ).z| := by
    show ¬ 1 - tol < |(0 : ℝ)|
    rw [abs_zero]; exact not_lt.mpr (sub_nonneg.mpr h1.le)
  have hpi := Real.pi_pos
  have hf : (R tol ct).fmod (-(Real.pi / 2)) (2 * (R tol ct).pi) = 3 * (Real.pi / 2) :=
    fmod_unique (-1) (by simp only [R]; push_cast; ring) (by positivity) (by simp only [R]; linarith)
  rw [nodeLLOfXyz, e, lonLatRad_smul_unit hc hu, lonLatRad_nomask _ hm]
  show (R tol ct).fmod (Complex.arg ⟨0, -1⟩) (2 * (R tol ct).pi) * (180 / Real.pi) = 270
  rw [show (⟨0, -1⟩ : ℂ) = -Complex.I by apply Complex.ext <;> simp, Complex.arg_neg_I, hf, mul_assoc,
    half_pi_deg]
  norm_num

/-- `centreDeg2Rad = false` (fix C04-centre-xyz-degrees): a stored centre at (lon, lat) = (4°, 0°): the unrepaired branch hands the degrees
    to `_lonlat_rad_to_xyz` and obtains a vector in the southern half-plane y < 0, while the point
    the stored lon/lat denotes has y > 0 — the two reports do not denote the same direction -/
theorem asis_centre_degrees_as_radians :
    ¬ SameDir tol (dirDeg (R tol ct) (⟨4⟩, ⟨0⟩)) (centreXyzOfLL (R tol ct) asIs (⟨4⟩, ⟨0⟩)) := by
  have hy1 : (centreXyzOfLL (R tol ct) asIs (⟨4⟩, ⟨0⟩)).y < 0 := by
    simp [centreXyzOfLL, asIs, xyzOfLonLatRad, Deg.asRad, R]
    -- π < 4 < 2π
    rw [← Real.sin_sub_two_pi]
    apply Real.sin_neg_of_neg_of_neg_pi_lt <;> linarith [Real.pi_gt_three, Real.pi_lt_four]
  have hy2 : 0 < (dirDeg (R tol ct) (⟨4⟩, ⟨0⟩)).y := by
    simp [dirDeg, deg2rad, xyzOfLonLatRad, R]
    have hpi := Real.pi_pos
    apply Real.sin_pos_of_pos_of_lt_pi <;> [positivity; linarith]
  have hz : (dirDeg (R tol ct) (⟨4⟩, ⟨0⟩)).z = 0 := by
    simp [dirDeg, deg2rad, xyzOfLonLatRad, R]
  rintro (h | ⟨_, h⟩ | ⟨_, h⟩)
  · rw [h] at hy2; linarith
  · rw [h] at hz; norm_num at hz
  · rw [h] at hz; norm_num at hz

/-- `centreNormalize = false` (fix C04-centre-lonlat-nonunit): a stored centre vector (1, 0, 1) (latitude 45°, radius √2): the unrepaired branch
    takes `arcsin` of the un-normalised z = 1, reports the north pole, which is not the direction
    of the stored vector -/
theorem asis_centre_nonunit (h0 : 0 < tol) (h1 : tol ≤ 1 / 4) :
    ¬ SameDir tol (dirDeg (R tol ct) (centreLLOfStoredXyz (R tol ct) asIs ⟨1, 0, 1⟩))
        (normalizeV (R tol ct) ⟨1, 0, 1⟩) := by
  have hm : 1 - tol < |(⟨1, 0, 1⟩ : V3 ℝ).z| := by
    show 1 - tol < |(1 : ℝ)|
    rw [abs_one]; exact sub_lt_self 1 h0
  have hd : dirDeg (R tol ct) (centreLLOfStoredXyz (R tol ct) asIs ⟨1, 0, 1⟩) = ⟨0, 0, 1⟩ := by
    rw [centreLLOfStoredXyz, asIs, dirDeg_lonLatDeg, lonLatRad_mask _ hm, signK_pos one_pos]
    exact xyz_pole (Or.inl rfl) 0
  -- the stored direction is `(k, 0, k)` with `2 k² = 1`
  obtain ⟨k, hk, e⟩ := CoordsR.normalize_dir (tol := tol) (ct := ct) ⟨1, 0, 1⟩ (by norm_num [normSq, dot])
  have hq := CoordsR.normalize_unit (tol := tol) (ct := ct) ⟨1, 0, 1⟩ (by norm_num [normSq, dot])
  rw [hd, e]
  rw [e] at hq
  have hk2 : k * 1 * (k * 1) + k * 0 * (k * 0) + k * 1 * (k * 1) = 1 := hq
  rintro (h | ⟨h, _⟩ | ⟨_, h⟩)
  · have : (0 : ℝ) = k * 1 := congrArg V3.x h
    exact hk.ne (this.trans (mul_one k))
  · have h34 : 3 / 4 < k := by
      have : 1 - tol < k * 1 := h
      linarith
    have := mul_lt_mul'' h34 h34 (by norm_num) (by norm_num)
    linarith
  · have := congrArg V3.z h; norm_num at this

/-- the same consistent source under the UNREPAIRED algorithm: reading `node_lon` first reports
    270° for the node at longitude -90°, so the provenance theorem is false for `asIs` -/
theorem asis_provenance_fails (h1 : tol < 1) :
    ¬ ∀ r ∈ (run (R tol ct) asIs conn0 (init (R tol ct) src0) [Op.getLL Kind.node]).2,
        ReportOK tol ct (supOf src0) (truth0 tol ct) r := by
  intro h
  obtain ⟨l, hl, hf⟩ := h (Report.ll Kind.node
      (some ([⟨0, -2, 0⟩, ⟨2, 0, 0⟩, ⟨0, 0, 2⟩].map (nodeLLOfXyz (R tol ct))))) (by
    simp [run, step, init, wrapRange, populateNodeLL, src0, asIs])
  cases hl
  cases hf with
  | cons h1' _ =>
    have hle : (nodeLLOfXyz (R tol ct) ⟨0, -2, 0⟩).1.val ≤ 180 := h1'.1.2.1
    rw [asis_node_lon_out_of_range h1 two_pos] at hle
    norm_num at hle

end UxVerif.C04
