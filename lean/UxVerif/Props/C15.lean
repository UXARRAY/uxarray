/-
  C15 — Exported polygons and lines correspond one-to-one with faces.

  Model `UxVerif.Model.Polys` (facts about it alone: `Lemmas.Polys`), for EVERY grid, data array, policy,
  projection and history of conversions; `G.pieces` (antimeridian.fix_polygon) and the projections are
  parameters.  §1 `antimeridian_iff`; §2–§3 `nan_filter_compose`, `exclude_map`, `split_map`, `ignore_map*`;
  §5 `step_inv`, `export_history_free`, `returned_geometry_stable`, `returned_object_stable`; §4
  `*_meets_spec`, `export_meets_spec_after_any_history`.  Theorems state the repair switches
  (`Polys.Repairs`) they need.  `asis_*`: the code without a switch, or ("regression witness") a model
  variant mirroring the code before a committed repair, or a seeded change (seeded/<id>).
-/
import UxVerif.Lemmas.Polys

namespace UxVerif.C15
open UxVerif UxVerif.Polys

/-! ## §1 antimeridian faces -/

/-- **antimeridian_iff**: the test the code runs on the closed, padded shell (`np.diff` over
    `n_max_face_nodes + 1` columns, padding = repeated first corner) is true exactly when one of
    the face's own boundary segments (cyclically, including the closing one) spans ≥ 180°:
    the padding never creates and never hides a crossing.  `cross` is any relation with
    `cross a a = false` (here `|b - a| ≥ 180`). -/
theorem antimeridian_iff {α} (cross : α → α → Bool) (hirr : ∀ a, cross a a = false)
    (w : Nat) (c : List α) (hw : c.length ≤ w) :
    crossesShell cross (closedShell w c) = crossesFace cross c := by
  cases c with
  | nil => rfl
  | cons a c =>
    have hm : w - c.length = (w - c.length - 1) + 1 := by
      simp only [List.length_cons] at hw; omega
    show (adj ((a :: c) ++ List.replicate (w - c.length) a)).any (fun p => cross p.1 p.2)
        = ((a :: c).zip (c ++ [a])).any (fun p => cross p.1 p.2)
    rw [hm, List.replicate_succ, adj_append_cons, List.any_append]
    have : (adj (a :: List.replicate (w - c.length - 1) a)).any (fun p => cross p.1 p.2) = false := by
      rw [List.any_eq_false]
      intro p hp
      rw [adj_replicate a _ p hp, hirr a]
      exact Bool.false_ne_true
    rw [this, Bool.or_false]

/-- the flags of a whole table are the per-face statement -/
theorem amFlags_eq {α} (cross : α → α → Bool) (hirr : ∀ a, cross a a = false)
    (w : Nat) (faces : List (List α)) (hw : ∀ c ∈ faces, c.length ≤ w) :
    amFlags cross w faces = faces.map (crossesFace cross) := by
  unfold amFlags
  apply List.map_congr_left
  intro c hc
  exact antimeridian_iff cross hirr w c (hw c hc)

/-- non-vacuity: a quad and a padded triangle, one of them crossing -/
example : amFlags (fun (a b : Int) => decide (180 ≤ (b - a).natAbs)) 4
    [[170, -170, -170, 170], [10, 20, 15]] = [true, false] := by decide +kernel

/-! ## §2–§3 the policies: polygon ↦ face maps and the data along them -/

theorem keep_eq (g : G) (p : Nat) :
    keep g p = (List.range g.n).filter (fun i => !g.am p i) := by
  unfold keep amOf
  have h := deleteIdx_idxWhere (List.range g.n) (g.am p)
  rw [List.length_range] at h
  rw [h]
  exact gather_range_left g.n _ (fun i hi => List.mem_range.mp (List.mem_filter.mp hi).1)

theorem mem_keep (g : G) (p i : Nat) : i ∈ keep g p ↔ i < g.n ∧ g.am p i = false := by
  rw [keep_eq]; simp

/-- `np.delete(values, antimeridian_face_indices)` follows the kept faces -/
theorem delete_follows (g : G) (p : Nat) {β} (vals : List β) (hv : vals.length = g.n) :
    deleteIdx vals (amOf g p) = gather vals (keep g p) := by
  unfold amOf
  rw [← hv, deleteIdx_idxWhere, hv, ← keep_eq]

/-- **The data column is the input gathered along the polygon ↦ face map**, whatever the non-NaN table holds:
    the same table is applied to `np.delete(values, am)` and `np.delete(arange, am)` (`exclude`), or to
    `values` and `arange` -/
theorem gdfData_eq_gather (g : G) (pe : Pe) (p : Nat) (nn : Option (List Nat)) {β} (vals : List β)
    (hv : vals.length = g.n) :
    gdfData pe (amOf g p) nn vals
      = gather vals (applyNn nn (if pe = .exclude then keep g p else List.range g.n)) := by
  unfold gdfData
  split
  · rw [delete_follows g p vals hv]
    exact applyNn_gather nn vals _ fun i hi => hv ▸ ((mem_keep g p i).mp hi).1
  · conv => lhs; rw [← gather_range_length vals, hv]
    exact applyNn_gather nn vals _ fun i hi => hv ▸ List.mem_range.mp hi

theorem applyNn_posWhere (p : Nat) (bad : Nat → Bool) (base : List Nat) :
    applyNn (if p = 0 then none else some (posWhere (fun i => !bad i) base)) base
      = base.filter (fun i => !(if p = 0 then false else bad i)) := by
  by_cases hp : p = 0
  · simp only [hp, if_true, applyNn]
    exact (List.filter_eq_self.mpr fun _ _ => rfl).symm
  · simp only [hp, if_false, applyNn]
    exact gather_posWhere _ base

theorem rows_exclude (g : G) (p : Nat) :
    applyNn (nnOf g p) (keep g p)
      = (List.range g.n).filter (fun i => !g.am p i && !(if p = 0 then false else g.nan p i)) := by
  rw [nnOf, applyNn_posWhere, keep_eq, List.filter_filter]
  exact List.filter_congr fun i _ => Bool.and_comm _ _

theorem rows_exclude_lt (g : G) (p : Nat) : ∀ i ∈ applyNn (nnOf g p) (keep g p), i < g.n := fun i hi => by
  rw [rows_exclude] at hi
  exact List.mem_range.mp (List.mem_filter.mp hi).1

/-- **nan_filter_compose**: under `exclude`, with any projection, the positions computed on the
    array WITHOUT the crossing faces, applied to the kept faces and to the kept data, give: the
    polygons are exactly the faces that neither cross nor project to NaN, in face order, and the
    data value at polygon `k` is the value of the face polygon `k` shows.  Holds for the
    GeoDataFrame, the PolyCollection and the LineCollection (same index tables). -/
theorem nan_filter_compose (R : Repairs) (g : G) (p : Nat) {β} (vals : List β) (hv : vals.length = g.n) :
    gdfRows R g .exclude p
      = (List.range g.n).filter (fun i => !g.am p i && !(if p = 0 then false else g.nan p i)) ∧
    (polyRows R g .exclude p).1 = gdfRows R g .exclude p ∧
    (lineRows R g .exclude p).1 = gdfRows R g .exclude p ∧
    (gdfData .exclude (amOf g p) (nnOf g p) vals).map some
      = (gdfRows R g .exclude p).map (fun i => vals[i]?) ∧
    polyData .exclude (amOf g p) (nnOf g p) (polyRows R g .exclude p).2.1 vals
      = gdfData .exclude (amOf g p) (nnOf g p) vals := by
  refine ⟨rows_exclude g p, rfl, rfl, ?_, rfl⟩
  rw [gdfData_eq_gather g .exclude p _ vals hv]
  exact gather_map_some vals _ fun i hi => hv ▸ rows_exclude_lt g p i hi

/-- **exclude_map** (no projection): the polygons are exactly the faces that do not cross, in
    face order, each once; `np.delete` on the data picks, for polygon `k`, the value of the face
    polygon `k` shows. -/
theorem exclude_map (R : Repairs) (g : G) {β} (vals : List β) (hv : vals.length = g.n) :
    gdfRows R g .exclude 0 = (List.range g.n).filter (fun i => !g.am 0 i) ∧
    (gdfRows R g .exclude 0).Pairwise (· < ·) ∧
    (∀ i, i ∈ gdfRows R g .exclude 0 ↔ i < g.n ∧ g.am 0 i = false) ∧
    (gdfData .exclude (amOf g 0) (nnOf g 0) vals).map some
      = (gdfRows R g .exclude 0).map (fun i => vals[i]?) := by
  have hr : gdfRows R g .exclude 0 = keep g 0 := rfl
  refine ⟨hr ▸ keep_eq g 0, ?_, fun i => hr ▸ mem_keep g 0 i, ?_⟩
  · rw [hr, keep_eq]; exact List.pairwise_lt_range.filter _
  · exact (nan_filter_compose R g 0 vals hv).2.2.2.1

theorem mem_c2oSplit (g : G) (p k : Nat) : k ∈ c2oSplit g p ↔ k < g.n ∧ 0 < g.pieces p k := by
  unfold c2oSplit
  simp only [List.mem_flatMap, List.mem_range, List.mem_replicate]
  constructor
  · rintro ⟨i, hi, hne, rfl⟩; exact ⟨hi, Nat.pos_of_ne_zero hne⟩
  · rintro ⟨hk, hp⟩; exact ⟨k, hk, Nat.ne_of_gt hp, rfl⟩

theorem c2oSplit_pairwise (g : G) (p : Nat) : (c2oSplit g p).Pairwise (· ≤ ·) := by
  refine List.pairwise_flatMap.mpr ⟨fun i _ => List.pairwise_replicate.mpr (Or.inr (Nat.le_refl i)), ?_⟩
  refine List.pairwise_lt_range.imp fun {a b} hab x hx y hy => ?_
  rw [(List.mem_replicate.mp hx).2, (List.mem_replicate.mp hy).2]
  exact Nat.le_of_lt hab

theorem c2oSplit_count (f : Nat → Nat) (m i : Nat) :
    ((List.range m).flatMap (fun j => List.replicate (f j) j)).count i = if i < m then f i else 0 := by
  induction m with
  | zero => rfl
  | succ m ih =>
    rw [List.range_succ, List.flatMap_append, List.count_append, ih, List.flatMap_cons,
      List.flatMap_nil, List.append_nil, List.count_replicate]
    rcases Nat.lt_trichotomy i m with h | h | h
    · rw [if_pos h, if_neg (fun e => Nat.ne_of_gt h (beq_iff_eq.mp e)), if_pos (Nat.lt_succ_of_lt h)]
      rfl
    · subst h
      rw [if_neg (Nat.lt_irrefl i), if_pos (beq_self_eq_true i), if_pos (Nat.lt_succ_self i), Nat.zero_add]
    · rw [if_neg (Nat.lt_asymm h), if_neg (fun e => Nat.ne_of_lt h (beq_iff_eq.mp e)),
        if_neg (fun h' => Nat.lt_irrefl m (Nat.lt_of_lt_of_le h (Nat.le_of_lt_succ h')))]

/-- **split_map**: every piece maps to a face, pieces come in face order, face `i` owns exactly
    `pieces i` of them (so every face with at least one piece is present), and
    `values[corrected_to_original_faces]` puts on piece `k` the value of the face it was cut from. -/
theorem split_map (R : Repairs) (g : G) (p : Nat) {β} (vals : List β) (hv : vals.length = g.n) :
    (∀ k ∈ c2oSplit g p, k < g.n) ∧
    (c2oSplit g p).Pairwise (· ≤ ·) ∧
    (∀ i, i < g.n → (c2oSplit g p).count i = g.pieces p i) ∧
    (∀ i, i < g.n → 0 < g.pieces p i → i ∈ c2oSplit g p) ∧
    (polyData .split (amOf g p) none (c2oSplit g p) vals).map some
      = (c2oSplit g p).map (fun i => vals[i]?) ∧
    gdfRows R g .split p = List.range g.n := by
  have h2 : ∀ k ∈ c2oSplit g p, k < g.n := fun k hk => ((mem_c2oSplit g p k).mp hk).1
  exact ⟨h2, c2oSplit_pairwise g p, fun i hi => (c2oSplit_count (g.pieces p) g.n i).trans (if_pos hi),
    fun i hi hp => (mem_c2oSplit g p i).mpr ⟨hi, hp⟩, gather_map_some vals _ fun i hi => hv ▸ h2 i hi, rfl⟩

theorem nnFor_zero (R : Repairs) (g : G) (pe : Pe) : nnFor R g pe 0 = none := by
  unfold nnFor nnOf nnAll; split <;> rfl

theorem nnFor_exclude (R : Repairs) (g : G) (p : Nat) : nnFor R g .exclude p = nnOf g p := by
  simp [nnFor]

theorem nnFor_ignore (R : Repairs) (hI : R.ignoreProj = true) (g : G) (p : Nat) :
    nnFor R g .ignore p = nnAll g p := by
  simp [nnFor, hI]

/-- **ignore_map** (no projection): the identity — polygon `i` is face `i`, value `i`. -/
theorem ignore_map (R : Repairs) (g : G) {β} (vals : List β) :
    gdfRows R g .ignore 0 = List.range g.n ∧
    (polyRows R g .ignore 0).1 = List.range g.n ∧
    (lineRows R g .ignore 0).1 = List.range g.n ∧
    gdfData .ignore (amOf g 0) (nnFor R g .ignore 0) vals = vals ∧
    polyData .ignore (amOf g 0) (nnFor R g .ignore 0) (polyRows R g .ignore 0).2.1 vals = vals := by
  have h0 : nnFor R g .ignore 0 = none := nnFor_zero R g .ignore
  refine ⟨?_, ?_, ?_, ?_, ?_⟩
  · rw [gdfRows, h0]; rfl
  · cases hR : R.ignoreProj <;> simp only [polyRows, hR] <;> rfl
  · cases hR : R.ignoreProj <;> simp only [lineRows, hR] <;> rfl
  · rw [h0]; rfl
  · rw [h0]; rfl

theorem keep_all (g : G) (p : Nat) (h : ∀ i, i < g.n → g.am p i = false) :
    keep g p = List.range g.n := by
  rw [keep_eq]
  apply List.filter_eq_self.mpr
  intro i hi
  simp [h i (List.mem_range.mp hi)]

theorem rows_ignore (g : G) (p : Nat) :
    applyNn (nnAll g p) (List.range g.n)
      = (List.range g.n).filter (fun i => !(if p = 0 then false else g.nan p i)) := by
  rw [nnAll, applyNn_posWhere]

/-- **ignore_map with a projection** (repaired code): whatever faces cross, the exported polygons are
    exactly the faces the projection can represent (no NaN), in face order, in the projected coordinates,
    for all three exporters, and the data value at polygon `k` is the value of the face polygon `k` shows. -/
theorem ignore_map_projection (R : Repairs) (hI : R.ignoreProj = true) (g : G) (p : Nat) {β}
    (vals : List β) (hv : vals.length = g.n) :
    gdfRows R g .ignore p
      = (List.range g.n).filter (fun i => !(if p = 0 then false else g.nan p i)) ∧
    polyRows R g .ignore p = (gdfRows R g .ignore p, [], p) ∧
    lineRows R g .ignore p = (gdfRows R g .ignore p, p) ∧
    (gdfData .ignore (amOf g p) (nnFor R g .ignore p) vals).map some
      = (gdfRows R g .ignore p).map (fun i => vals[i]?) ∧
    polyData .ignore (amOf g p) (nnFor R g .ignore p) (polyRows R g .ignore p).2.1 vals
      = gdfData .ignore (amOf g p) (nnFor R g .ignore p) vals := by
  have hr : gdfRows R g .ignore p = applyNn (nnAll g p) (List.range g.n) := by
    rw [gdfRows, nnFor_ignore R hI]
  have hrows := hr.trans (rows_ignore g p)
  refine ⟨hrows, by rw [polyRows, hI, hr]; rfl, by rw [lineRows, hI, hr]; rfl, ?_, rfl⟩
  rw [gdfData_eq_gather g .ignore p _ vals hv]
  refine gather_map_some vals _ fun i (hi : i ∈ gdfRows R g .ignore p) => ?_
  rw [hrows] at hi
  exact hv ▸ List.mem_range.mp (List.mem_filter.mp hi).1

/-! ## §5 the export caches -/

section machine
variable {β : Type}

/-- a cached frame carries the side tables and the geometry of its own key -/
def GdfInv (R : Repairs) (g : G) (s : St β) : Prop :=
  ∀ e, s.gdf = some e →
    e.am = amOf g e.key.proj ∧ e.nn = nnFor R g e.key.pe e.key.proj ∧
    ∃ fr, s.heap[e.id]? = some fr ∧ fr.rows = gdfRows R g e.key.pe e.key.proj ∧ fr.tag = e.key.proj

def PolyInv (R : Repairs) (g : G) (s : St β) : Prop :=
  ∀ e, s.poly = some e →
    e.am = amOf g e.proj ∧ e.nn = nnFor R g e.pe e.proj ∧
    (e.rows, e.c2o, e.tag) = polyRows R g e.pe e.proj ∧ ¬ (e.pe = .split ∧ e.proj ≠ 0)

def LineInv (R : Repairs) (g : G) (s : St β) : Prop :=
  ∀ e, s.line = some e → (e.rows, e.tag) = lineRows R g e.pe e.proj

def Inv (R : Repairs) (g : G) (s : St β) : Prop := GdfInv R g s ∧ PolyInv R g s ∧ LineInv R g s

theorem inv_init (R : Repairs) (g : G) : Inv R g (St.init : St β) := by
  refine ⟨?_, ?_, ?_⟩ <;> intro e h <;> cases h

/-- what `Grid.to_geodataframe` guarantees when it returns a frame (repaired: also when the frame comes
    from the cache, whatever conversions were made in between) -/
structure GdfPost (R : Repairs) (g : G) (s1 : St β) (k : Key) (id : Nat) (nn : Option (List Nat)) :
    Prop where
  nn_eq : nn = nnFor R g k.pe k.proj
  am_eq : s1.gdfAm = amOf g k.proj
  fr : ∃ fr, s1.heap[id]? = some fr ∧ fr.rows = gdfRows R g k.pe k.proj ∧ fr.tag = k.proj

theorem gdfCompute_post (R : Repairs) (g : G) (s : St β) (hinv : GdfInv R g s) (k : Key) (c : Bool) :
    GdfInv R g (gdfCompute R g s k c).1 ∧
    GdfPost R g (gdfCompute R g s k c).1 k s.heap.length (nnFor R g k.pe k.proj) := by
  have hfr : (gdfCompute R g s k c).1.heap[s.heap.length]?
      = some ⟨gdfRows R g k.pe k.proj, k.proj, k.eng, []⟩ := by simp [gdfCompute]
  refine ⟨fun e he => ?_, rfl, rfl, _, hfr, rfl, rfl⟩
  cases c with
  | true => cases he; exact ⟨rfl, rfl, _, hfr, rfl, rfl⟩
  | false =>
    obtain ⟨h1, h2, fr, h3, h4, h5⟩ := hinv e he
    exact ⟨h1, h2, fr, getElem?_append_kept _ h3, h4, h5⟩

theorem gdfCore_post (R : Repairs) (hS : R.sideRestore = true) (g : G) (s : St β)
    (hinv : Inv R g s) (k : Key) (c o : Bool) {s1 : St β} {r : Option (Nat × Option (List Nat))}
    (h : gdfCore R g s k c o = (s1, r)) :
    Inv R g s1 ∧ ((k.pe = .split ∧ k.proj ≠ 0) ∧ r = none ∨
      ¬ (k.pe = .split ∧ k.proj ≠ 0) ∧ ∃ id nn, r = some (id, nn) ∧ GdfPost R g s1 k id nn) := by
  obtain ⟨hg, hp, hl⟩ := hinv
  rcases gdfCore_cases R g s k c o with ⟨hk, e⟩ | ⟨hk, ⟨e, hs, hkey, -, e'⟩ | e'⟩
  · cases e.symm.trans h
    exact ⟨⟨hg, hp, hl⟩, Or.inl ⟨hk, rfl⟩⟩
  · cases e'.symm.trans h
    obtain ⟨h1, h2, fr⟩ := hg e hs
    rw [hkey] at h1 h2 fr
    exact ⟨⟨hg, hp, hl⟩, Or.inr ⟨hk, e.id, e.nn, rfl, h2, by simp [hS, h1], fr⟩⟩
  · cases e'.symm.trans h
    obtain ⟨hg1, post⟩ := gdfCompute_post R g s hg k c
    exact ⟨⟨hg1, hp, hl⟩, Or.inr ⟨hk, _, _, rfl, post⟩⟩

structure PolyPost (R : Repairs) (g : G) (s1 : St β) (pe : Pe) (p : Nat)
    (r : List Nat × List Nat × Nat) : Prop where
  r_eq : r = polyRows R g pe p
  am_eq : s1.polyAm = amOf g p
  nn_eq : s1.polyNn = nnFor R g pe p

theorem polyCore_post (R : Repairs) (hS : R.sideRestore = true) (g : G) (s : St β)
    (hinv : Inv R g s) (pe : Pe) (p : Nat) (c o : Bool) {s1 : St β}
    {r : Option (List Nat × List Nat × Nat)} (h : polyCore R g s pe p c o = (s1, r)) :
    Inv R g s1 ∧ ((pe = .split ∧ p ≠ 0) ∧ r = none ∨
      ¬ (pe = .split ∧ p ≠ 0) ∧ ∃ q, r = some q ∧ PolyPost R g s1 pe p q) := by
  obtain ⟨hg, hp, hl⟩ := hinv
  rcases polyCore_cases R g s pe p c o with ⟨e, hs, rfl, rfl, -, e'⟩ | ⟨hk, e'⟩ | ⟨hk, e'⟩
  · cases e'.symm.trans h
    obtain ⟨h1, h2, h3, h4⟩ := hp e hs
    exact ⟨⟨hg, hp, hl⟩, Or.inr ⟨h4, _, rfl, h3, by simp [hS, h1], by simp [hS, h2]⟩⟩
  · cases e'.symm.trans h
    exact ⟨⟨hg, hp, hl⟩, Or.inl ⟨hk, rfl⟩⟩
  · cases e'.symm.trans h
    refine ⟨⟨hg, fun e he => ?_, hl⟩, Or.inr ⟨hk, _, rfl, rfl, rfl, rfl⟩⟩
    cases c with
    | true => cases he; exact ⟨rfl, rfl, rfl, hk⟩
    | false => exact hp e he

theorem lineCore_post (R : Repairs) (g : G) (s : St β) (hinv : Inv R g s) (pe : Pe) (p : Nat)
    (c o : Bool) {s1 : St β} {r : List Nat × Nat} (h : lineCore R g s pe p c o = (s1, r)) :
    Inv R g s1 ∧ r = lineRows R g pe p := by
  obtain ⟨hg, hp, hl⟩ := hinv
  have hcomp : lineCompute R g s pe p c = (s1, r) → Inv R g s1 ∧ r = lineRows R g pe p := fun h => by
    cases h
    refine ⟨⟨hg, hp, fun e he => ?_⟩, rfl⟩
    cases c with
    | true => cases he; rfl
    | false => exact hl e he
  unfold lineCore at h
  split at h
  · rename_i e hs
    split at h
    · rename_i hh
      cases h
      have := hl e hs
      rw [hh.1, hh.2.1] at this
      exact ⟨⟨hg, hp, hl⟩, this⟩
    · exact hcomp h
  · exact hcomp h

theorem step_post (R : Repairs) (hS : R.sideRestore = true) (g : G) (s : St β) (hinv : Inv R g s)
    (op : Op β) :
    Inv R g (step R g s op).1 ∧ view (step R g s op).1 op (step R g s op).2 = pureView R g op := by
  cases op with
  | gridGdf k c o =>
    cases hgc : gdfCore R g s k c o with
    | mk s1 r =>
      obtain ⟨hi1, ⟨hk, rfl⟩ | ⟨hk, id, nn, rfl, post⟩⟩ := gdfCore_post R hS g s hinv k c o hgc
      · simp only [step, hgc]
        exact ⟨hi1, (if_pos hk).symm⟩
      · simp only [step, hgc]
        obtain ⟨fr, hf1, hf2, hf3⟩ := post.fr
        exact ⟨hi1, by simp only [view, pureView, hf1, hf2, hf3, if_neg hk]⟩
  | daGdf v vals k c o =>
    by_cases hv : vals.length ≠ g.n
    · simp only [step, if_pos hv]
      exact ⟨hinv, (if_pos hv).symm⟩
    · cases hgc : gdfCore R g s k c o with
      | mk s1 r =>
        obtain ⟨hi1, ⟨hk, rfl⟩ | ⟨hk, id, nn, rfl, post⟩⟩ := gdfCore_post R hS g s hinv k c o hgc
        · simp only [step, if_neg hv, hgc]
          exact ⟨hi1, ((if_neg hv).trans (if_pos hk)).symm⟩
        · simp only [step, if_neg hv, hgc]
          obtain ⟨fr, hf1, hf2, hf3⟩ := post.fr
          obtain ⟨fr', hw1, hw2, hw3, hw4⟩ :=
            attachCol_result R s1.heap id v (gdfData k.pe s1.gdfAm nn vals) fr hf1
          refine ⟨⟨fun e he => ?_, hi1.2⟩, ?_⟩
          · obtain ⟨h1, h2, f0, h3, h4, h5⟩ := hi1.1 e he
            obtain ⟨f1, g1, g2, g3, _⟩ := attachCol_kept R s1.heap id v _ e.id f0 h3
            exact ⟨h1, h2, f1, g1, g2.trans h4, g3.trans h5⟩
          · simp only [view, hw1, pureView, hk, if_neg hv]
            rw [hw4, hw2, hw3, hf2, hf3, post.am_eq, post.nn_eq]
            simp
  | gridPoly pe p c o =>
    cases hgc : polyCore R g s pe p c o with
    | mk s1 r =>
      obtain ⟨hi1, ⟨hk, rfl⟩ | ⟨hk, q, rfl, post⟩⟩ := polyCore_post R hS g s hinv pe p c o hgc
      · simp only [step, hgc]
        exact ⟨hi1, (if_pos hk).symm⟩
      · simp only [step, hgc]
        exact ⟨hi1, by simp only [view, pureView, if_neg hk, ← post.r_eq]⟩
  | daPoly vals pe p c o =>
    by_cases hv : vals.length ≠ g.n
    · simp only [step, if_pos hv]
      exact ⟨hinv, (if_pos hv).symm⟩
    · cases hgc : polyCore R g s pe p c o with
      | mk s1 r =>
        obtain ⟨hi1, ⟨hk, rfl⟩ | ⟨hk, q, rfl, post⟩⟩ := polyCore_post R hS g s hinv pe p c o hgc
        · simp only [step, if_neg hv, hgc]
          exact ⟨hi1, ((if_neg hv).trans (if_pos hk)).symm⟩
        · simp only [step, if_neg hv, hgc]
          exact ⟨hi1,
            by simp only [view, pureView, if_neg hk, if_neg hv, ← post.r_eq, post.am_eq, post.nn_eq]⟩
  | gridLine pe p c o =>
    cases hgc : lineCore R g s pe p c o with
    | mk s1 r =>
      obtain ⟨hi1, rfl⟩ := lineCore_post R g s hinv pe p c o hgc
      simp only [step, hgc]
      exact ⟨hi1, rfl⟩

/-- EVERY conversion — cached or not, overriding or not — keeps the caches consistent -/
theorem step_inv (R : Repairs) (hS : R.sideRestore = true) (g : G) (s : St β) (hinv : Inv R g s)
    (op : Op β) : Inv R g (step R g s op).1 :=
  (step_post R hS g s hinv op).1

theorem run_inv (R : Repairs) (hS : R.sideRestore = true) (g : G) (h : List (Op β)) (s : St β)
    (hinv : Inv R g s) : Inv R g (run R g s h).1 := by
  induction h generalizing s with
  | nil => exact hinv
  | cons op ops ih => exact ih _ (step_inv R hS g s hinv op)

/-- **export_history_free** (full strength, repaired code): after ANY history of conversions on the
    grid — any mix of GeoDataFrame / PolyCollection / LineCollection exports, of the grid or of any
    variables, with any `periodic_elements`, projections, engines, `cache` and `override` flags — a
    conversion returns exactly what its own arguments determine: same polygons ↦ faces, same coordinate
    system, same data on every polygon; in particular the same as on a new grid.
    Without the repair this is false: `asis_uncached_conversion_poisons`. -/
theorem export_history_free (R : Repairs) (hS : R.sideRestore = true) (g : G) (h : List (Op β))
    (op : Op β) :
    viewAfter R g h op = pureView R g op ∧ viewAfter R g h op = viewAfter R g [] op := by
  have h1 : viewAfter R g h op = pureView R g op :=
    (step_post R hS g _ (run_inv R hS g h St.init (inv_init R g)) op).2
  exact ⟨h1, h1.trans (step_post R hS g _ (inv_init R g) op).2.symm⟩

/-- without the copy: a conversion that can write into a frame it did not create —
    `UxDataArray.to_geodataframe` served from the cache -/
def mutates : Op β → Bool
  | .daGdf _ _ _ _ o => !o
  | _ => false

/-- geometry of a handed-out frame is never altered by ANY later conversion, with or without the
    repairs; with the copy (or when the conversion is not a data conversion served from the cache)
    nothing of it is -/
theorem step_geometry (R : Repairs) (g : G) (s : St β) (op : Op β) (id : Nat) (fr : Frame β)
    (h : s.heap[id]? = some fr) :
    ∃ fr', (step R g s op).1.heap[id]? = some fr' ∧ fr'.rows = fr.rows ∧ fr'.tag = fr.tag ∧
      fr'.eng = fr.eng ∧ (R.copyFrame = true ∨ mutates op = false → fr' = fr) := by
  -- every conversion but `UxDataArray.to_geodataframe` leaves the frames handed out as they are
  have kept : (step R g s op).1.heap[id]? = some fr → ∃ fr', (step R g s op).1.heap[id]? = some fr' ∧
      fr'.rows = fr.rows ∧ fr'.tag = fr.tag ∧ fr'.eng = fr.eng ∧
      (R.copyFrame = true ∨ mutates op = false → fr' = fr) := fun h' => ⟨fr, h', rfl, rfl, rfl, fun _ => rfl⟩
  cases op with
  | daGdf v vals k c o =>
    by_cases hv : vals.length ≠ g.n
    · exact ⟨fr, by simpa only [step, if_pos hv] using h, rfl, rfl, rfl, fun _ => rfl⟩
    · cases hgc : gdfCore R g s k c o with
      | mk s1 r =>
        obtain ⟨hm, hid⟩ := gdfCore_heap R g s k c o hgc
        cases r with
        | none => exact ⟨fr, by simpa only [step, if_neg hv, hgc] using hm id fr h, rfl, rfl, rfl, fun _ => rfl⟩
        | some q =>
          obtain ⟨f1, g1, g2, g3, g4, g5⟩ :=
            attachCol_kept R s1.heap q.1 v (gdfData k.pe s1.gdfAm q.2 vals) id fr (hm id fr h)
          refine ⟨f1, by simpa only [step, if_neg hv, hgc] using g1, g2, g3, g4, ?_⟩
          rintro (hc | hmut)
          · exact g5 (Or.inl hc)
          · -- an overriding conversion writes into the frame it has just created, at the next free address
            have ho : o = true := by simpa [mutates] using hmut
            exact g5 (Or.inr (hid ho q.1 q.2 rfl ▸ Nat.ne_of_lt (getElem?_lt h)))
  | gridGdf k c o =>
    apply kept
    simp only [step]
    split <;> rename_i heq <;> exact (gdfCore_heap R g s k c o heq).1 id fr h
  | gridPoly pe p c o =>
    apply kept
    simp only [step]
    split <;> rename_i heq <;> exact polyCore_heap R g s pe p c o heq ▸ h
  | daPoly vals pe p c o =>
    apply kept
    simp only [step]
    split
    · exact h
    · split <;> rename_i heq <;> exact polyCore_heap R g s pe p c o heq ▸ h
  | gridLine pe p c o =>
    apply kept
    simp only [step]
    exact lineCore_heap R g s pe p c o (rfl : _ = (_, _)) ▸ h

/-- **returned_geometry_stable** (with or without the repairs): whatever conversions follow — any
    history, any flags, any variables — the polygons, coordinate system and engine of a frame that
    was handed out stay what they were. -/
theorem returned_geometry_stable (R : Repairs) (g : G) (h2 : List (Op β)) (s : St β) (id : Nat)
    (fr : Frame β) (h : s.heap[id]? = some fr) :
    ∃ fr', (run R g s h2).1.heap[id]? = some fr' ∧ fr'.rows = fr.rows ∧ fr'.tag = fr.tag ∧
      fr'.eng = fr.eng := by
  induction h2 generalizing s fr with
  | nil => exact ⟨fr, h, rfl, rfl, rfl⟩
  | cons op ops ih =>
    obtain ⟨fr1, h1, e1, e2, e3, _⟩ := step_geometry R g s op id fr h
    obtain ⟨fr2, h2', f1, f2, f3⟩ := ih (step R g s op).1 fr1 h1
    exact ⟨fr2, by simpa [run] using h2', f1.trans e1, f2.trans e2, f3.trans e3⟩

/-- **returned_object_stable** (full strength, repaired code): a frame that was handed out — in any state
    reached by any history — is not altered AT ALL (geometry, engine, data columns) by ANY later history of
    conversions of every kind and with every flag.
    Without the repair this is false: `asis_returned_frame_mutated`.
    PolyCollections are deep copies and LineCollections are never written to: they are values in this
    model; their stability is tested on the real objects by the harness. -/
theorem returned_object_stable (R : Repairs) (hC : R.copyFrame = true) (g : G) (h2 : List (Op β))
    (s : St β) (id : Nat) (fr : Frame β) (h : s.heap[id]? = some fr) :
    (run R g s h2).1.heap[id]? = some fr := by
  induction h2 generalizing s with
  | nil => exact h
  | cons op ops ih =>
    obtain ⟨fr1, h1, _, _, _, e⟩ := step_geometry R g s op id fr h
    rw [e (Or.inl hC)] at h1
    simpa [run] using ih (step R g s op).1 h1

end machine

/-! ## §4 the pure semantics meets the specification -/

/-- the polygon ↦ face map every exporter realises (repaired code); under `split` a frame (`kd = 0`) has one
    row per face, a collection one entry per piece -/
def faceRows (g : G) (kd : Nat) (pe : Pe) (p : Nat) : List Nat :=
  match pe with
  | .exclude => applyNn (nnOf g p) (keep g p)
  | .ignore => applyNn (nnAll g p) (List.range g.n)
  | .split => if kd = 0 then List.range g.n else c2oSplit g p

/-- the coordinate system of the vertices: `split` never projects -/
def faceTag (pe : Pe) (p : Nat) : Nat := if pe = .split then 0 else p

theorem gdfRows_eq (R : Repairs) (hI : R.ignoreProj = true) (g : G) (pe : Pe) (p : Nat) :
    gdfRows R g pe p = faceRows g 0 pe p := by
  cases pe with
  | exclude => rfl
  | split => rfl
  | ignore => rw [gdfRows, nnFor_ignore R hI]; rfl

theorem polyRows_eq (R : Repairs) (hI : R.ignoreProj = true) (g : G) (pe : Pe) (p : Nat) :
    (polyRows R g pe p).1 = faceRows g 1 pe p ∧ (polyRows R g pe p).2.2 = faceTag pe p := by
  cases pe with
  | exclude => exact ⟨rfl, rfl⟩
  | split => exact ⟨rfl, rfl⟩
  | ignore => rw [polyRows, hI]; exact ⟨rfl, rfl⟩

theorem lineRows_eq (R : Repairs) (hI : R.ignoreProj = true) (g : G) (pe : Pe) (p : Nat) :
    lineRows R g pe p = (faceRows g 2 pe p, faceTag pe p) := by
  cases pe with
  | exclude => rfl
  | split => rfl
  | ignore => rw [lineRows, hI]; rfl

theorem faceRows_lt (g : G) (kd : Nat) (pe : Pe) (p : Nat) : ∀ i ∈ faceRows g kd pe p, i < g.n := by
  intro i hi
  cases pe with
  | exclude => exact rows_exclude_lt g p i hi
  | ignore =>
    rw [faceRows, rows_ignore] at hi
    exact List.mem_range.mp (List.mem_filter.mp hi).1
  | split =>
    rw [faceRows] at hi
    split at hi
    · exact List.mem_range.mp hi
    · exact ((mem_c2oSplit g p i).mp hi).1

theorem split_proj_zero {pe : Pe} {p : Nat} (hk : ¬ (pe = .split ∧ p ≠ 0)) (hpe : pe = .split) : p = 0 :=
  Decidable.byContradiction fun hp => hk ⟨hpe, hp⟩

theorem gdf_tag {pe : Pe} {p : Nat} (hk : ¬ (pe = .split ∧ p ≠ 0)) : p = faceTag pe p := by
  unfold faceTag
  split
  · exact split_proj_zero hk ‹_›
  · rfl

theorem gdfData_rows (R : Repairs) (g : G) (pe : Pe) (p : Nat) {β} (vals : List β)
    (hv : vals.length = g.n) (hk : ¬ (pe = .split ∧ p ≠ 0)) :
    gdfData pe (amOf g p) (nnFor R g pe p) vals = gather vals (gdfRows R g pe p) := by
  rw [gdfData_eq_gather g pe p _ vals hv]
  cases pe with
  | exclude => rw [nnFor_exclude]; rfl
  | ignore => rfl
  | split =>
    rw [split_proj_zero hk rfl, nnFor_zero]
    rfl

theorem polyData_rows (R : Repairs) (hI : R.ignoreProj = true) (g : G) (pe : Pe) (p : Nat) {β}
    (vals : List β) (hv : vals.length = g.n) (hk : ¬ (pe = .split ∧ p ≠ 0)) :
    polyData pe (amOf g p) (nnFor R g pe p) (polyRows R g pe p).2.1 vals
      = gather vals (polyRows R g pe p).1 := by
  cases pe with
  | exclude => exact gdfData_rows R g .exclude p vals hv hk
  | ignore =>
    have h := gdfData_rows R g .ignore p vals hv hk
    rw [gdfRows_eq R hI] at h
    rw [(polyRows_eq R hI g .ignore p).1]
    exact h
  | split =>
    rw [split_proj_zero hk rfl, nnFor_zero]
    rfl

theorem flag_map_range (f : Nat → Bool) (n i : Nat) (hi : i < n) :
    flag ((List.range n).map f) i = f i := by
  simp [flag, hi]

def mkCase {β} (g : G) (kd : Nat) (pe : Pe) (p : Nat) (vals : List β) : Case β :=
  { kind := kd, pe := pe, proj := p, n := g.n, am := (List.range g.n).map (g.am p),
    nan := (List.range g.n).map (g.nan p), dataIn := vals }

def mkObs {β} (rows : List Nat) (t : Nat) (d : Option (List β)) : Obs β :=
  { err := false, rows := rows.map Int.ofNat, tag := Int.ofNat t, dataOut := d }

theorem caseOf_eq_mkCase {β} (g : G) (op : Op β) :
    caseOf g op = mkCase g op.kind op.pe op.proj op.vals := rfl

theorem obsOf_eq_mkObs {β} (rows : List Nat) (t : Nat) (d : Option (List β)) :
    obsOf { err := false, rows := rows, tag := t, data := d } = mkObs rows t d := rfl

/-- the specification reads the flags from tables over `0 … n-1`, the projection as an `Int` -/
theorem filter_flags (g : G) (p : Nat) (q : Bool → Bool → Bool) :
    (List.range g.n).filter (fun i => q (g.am p i) (if p = 0 then false else g.nan p i))
      = (List.range g.n).filter (fun i => q (flag ((List.range g.n).map (g.am p)) i)
          (if Int.ofNat p = 0 then false else flag ((List.range g.n).map (g.nan p)) i)) := by
  apply List.filter_congr
  intro i hi
  have hi' := List.mem_range.mp hi
  rw [flag_map_range _ _ _ hi', flag_map_range _ _ _ hi']
  by_cases hp : p = 0 <;> simp [hp]

theorem faceTag_ok {β} (g : G) (kd p : Nat) (pe : Pe) (vals : List β) :
    Int.ofNat (faceTag pe p) = expTag (mkCase g kd pe p vals) := by
  unfold faceTag expTag mkCase
  by_cases hpe : pe = .split
  · simp [hpe]
  · by_cases hp : p = 0 <;> simp [hpe, hp]

theorem toNat_ofNat_lookup {β} (vals : List β) (rows : List Nat) :
    (rows.map Int.ofNat).map (fun r => if r < 0 then none else vals[r.toNat]?)
      = rows.map (fun i => vals[i]?) := by
  rw [List.map_map]
  apply List.map_congr_left
  intro i _
  show (if (i : Int) < 0 then none else vals[(i : Int).toNat]?) = vals[i]?
  have h : ¬ ((i : Int) < 0) := by omega
  rw [if_neg h]; simp

/-- **The common face map meets the specification**, for every exporter kind, policy and projection, with
    data gathered along it (`split` into pieces needs every face to have one) -/
theorem faceRows_meets_spec (g : G) {β} [DecidableEq β] (kd p : Nat) (pe : Pe) (vals : List β)
    (hpc : pe = .split → kd ≠ 0 → ∀ i, i < g.n → 0 < g.pieces p i) (d : Option (List β))
    (hd : ∀ x, d = some x → vals.length = g.n ∧ x = gather vals (faceRows g kd pe p)) :
    Spec (mkCase g kd pe p vals) (mkObs (faceRows g kd pe p) (faceTag pe p) d) := by
  have hlt := faceRows_lt g kd pe p
  refine Or.inr ⟨rfl, ⟨fun r hr => ?_, faceTag_ok g kd p pe vals⟩, ?_, ?_, ?_⟩
  · obtain ⟨i, hi, rfl⟩ := List.mem_map.mp hr
    exact ⟨Int.natCast_nonneg i, Int.ofNat_lt.mpr (hlt i hi)⟩
  · -- no face twice: filters of `range`, or `range` itself; pieces are exempt
    have nodup : (faceRows g kd pe p).Nodup → NoRepeat (mkCase g kd pe p vals)
        (mkObs (faceRows g kd pe p) (faceTag pe p) d) := fun h =>
      Or.inr (List.Pairwise.map Int.ofNat (fun a b hab e => hab (Int.ofNat.inj e)) h)
    cases pe with
    | exclude => exact nodup (by rw [faceRows, rows_exclude]; exact List.nodup_range.filter _)
    | ignore => exact nodup (by rw [faceRows, rows_ignore]; exact List.nodup_range.filter _)
    | split =>
      by_cases hkd : kd = 0
      · exact nodup (by rw [faceRows, if_pos hkd]; exact List.nodup_range)
      · exact Or.inl ⟨rfl, hkd⟩
  · cases pe with
    | exclude =>
      simp only [FaceMapOK, mkCase, mkObs, nanEff, faceRows]
      rw [rows_exclude, filter_flags g p fun a b => !a && !b]
      rfl
    | ignore =>
      simp only [FaceMapOK, mkCase, mkObs, nanEff, faceRows]
      rw [rows_ignore, filter_flags g p fun _ b => !b]
      rfl
    | split =>
      by_cases hkd : kd = 0
      · simp [FaceMapOK, mkCase, mkObs, faceRows, hkd]
      · simp only [FaceMapOK, mkCase, mkObs, faceRows, hkd, ↓reduceIte]
        exact ⟨List.Pairwise.map Int.ofNat (fun a b hab => Int.ofNat_le.mpr hab) (c2oSplit_pairwise g p),
          fun i hi => List.mem_map.mpr ⟨i, (mem_c2oSplit g p i).mpr ⟨hi, hpc rfl hkd i hi⟩, rfl⟩⟩
  · cases d with
    | none => trivial
    | some x =>
      obtain ⟨hv, rfl⟩ := hd x rfl
      simp only [DataOK, mkCase, mkObs]
      rw [toNat_ofNat_lookup]
      exact gather_map_some vals _ fun i hi => hv ▸ hlt i hi

/-- the conversions the property is about: the data array has one value per face, and
    `antimeridian.fix_polygon` (parameter) returns at least one polygon per face -/
def Regular {β} (g : G) : Op β → Prop
  | .gridGdf _ _ _ => True
  | .daGdf _ vals _ _ _ => vals.length = g.n
  | .gridPoly _ p _ _ => ∀ i, i < g.n → 0 < g.pieces p i
  | .daPoly vals _ p _ _ => vals.length = g.n ∧ ∀ i, i < g.n → 0 < g.pieces p i
  | .gridLine _ p _ _ => ∀ i, i < g.n → 0 < g.pieces p i

/-- **`Grid.to_geodataframe` meets the specification**: every policy, every projection, every grid. -/
theorem gdf_meets_spec (R : Repairs) (hI : R.ignoreProj = true) (g : G) {β} [DecidableEq β] (k : Key)
    (c o : Bool) :
    Spec (caseOf g (.gridGdf k c o : Op β)) (obsOf (pureView R g (.gridGdf k c o : Op β))) := by
  by_cases hk : k.pe = .split ∧ k.proj ≠ 0
  · exact Or.inl ⟨hk.1, hk.2, (by decide : (0 : Nat) ≠ 2)⟩
  · have := faceRows_meets_spec g 0 k.proj k.pe ([] : List β) (fun _ h => absurd rfl h) none nofun
    rw [← gdfRows_eq R hI, ← gdf_tag hk] at this
    rw [caseOf_eq_mkCase, pureView, if_neg hk, obsOf_eq_mkObs]
    exact this

/-- **`UxDataArray.to_geodataframe` meets the specification** — polygons AND data. -/
theorem da_gdf_meets_spec (R : Repairs) (hI : R.ignoreProj = true) (g : G) {β} [DecidableEq β]
    (v : Nat) (vals : List β) (k : Key) (c o : Bool) (hv : vals.length = g.n) :
    Spec (caseOf g (.daGdf v vals k c o)) (obsOf (pureView R g (.daGdf v vals k c o))) := by
  by_cases hk : k.pe = .split ∧ k.proj ≠ 0
  · exact Or.inl ⟨hk.1, hk.2, (by decide : (0 : Nat) ≠ 2)⟩
  · have := faceRows_meets_spec g 0 k.proj k.pe vals (fun _ h => absurd rfl h) _
      (fun x hx => ⟨hv, (Option.some.inj hx).symm⟩)
    rw [← gdfRows_eq R hI, ← gdf_tag hk, ← gdfData_rows R g k.pe k.proj vals hv hk] at this
    rw [caseOf_eq_mkCase, pureView, if_neg (fun h : vals.length ≠ g.n => h hv), if_neg hk, obsOf_eq_mkObs]
    exact this

/-- **`Grid.to_polycollection` meets the specification**, all policies and projections
    (`split` needs every face to have at least one piece). -/
theorem poly_meets_spec (R : Repairs) (hI : R.ignoreProj = true) (g : G) {β} [DecidableEq β] (pe : Pe)
    (p : Nat) (c o : Bool) (hpc : ∀ i, i < g.n → 0 < g.pieces p i) :
    Spec (caseOf g (.gridPoly pe p c o : Op β)) (obsOf (pureView R g (.gridPoly pe p c o : Op β))) := by
  by_cases hk : pe = .split ∧ p ≠ 0
  · exact Or.inl ⟨hk.1, hk.2, (by decide : (1 : Nat) ≠ 2)⟩
  · obtain ⟨e1, e2⟩ := polyRows_eq R hI g pe p
    have := faceRows_meets_spec g 1 p pe ([] : List β) (fun _ _ => hpc) none nofun
    rw [← e1, ← e2] at this
    rw [caseOf_eq_mkCase, pureView, if_neg hk, obsOf_eq_mkObs]
    exact this

/-- **`UxDataArray.to_polycollection` meets the specification** — polygons AND data. -/
theorem da_poly_meets_spec (R : Repairs) (hI : R.ignoreProj = true) (g : G) {β} [DecidableEq β]
    (vals : List β) (pe : Pe) (p : Nat) (c o : Bool) (hv : vals.length = g.n)
    (hpc : ∀ i, i < g.n → 0 < g.pieces p i) :
    Spec (caseOf g (.daPoly vals pe p c o)) (obsOf (pureView R g (.daPoly vals pe p c o))) := by
  by_cases hk : pe = .split ∧ p ≠ 0
  · exact Or.inl ⟨hk.1, hk.2, (by decide : (1 : Nat) ≠ 2)⟩
  · obtain ⟨e1, e2⟩ := polyRows_eq R hI g pe p
    have := faceRows_meets_spec g 1 p pe vals (fun _ _ => hpc) _
      (fun x hx => ⟨hv, (Option.some.inj hx).symm⟩)
    rw [← e1, ← e2, ← polyData_rows R hI g pe p vals hv hk] at this
    rw [caseOf_eq_mkCase, pureView, if_neg (fun h : vals.length ≠ g.n => h hv), if_neg hk, obsOf_eq_mkObs]
    exact this

/-- **`Grid.to_linecollection` meets the specification**, all policies and projections. -/
theorem line_meets_spec (R : Repairs) (hI : R.ignoreProj = true) (g : G) {β} [DecidableEq β] (pe : Pe)
    (p : Nat) (c o : Bool) (hpc : ∀ i, i < g.n → 0 < g.pieces p i) :
    Spec (caseOf g (.gridLine pe p c o : Op β)) (obsOf (pureView R g (.gridLine pe p c o : Op β))) := by
  have := faceRows_meets_spec g 2 p pe ([] : List β) (fun _ _ => hpc) none nofun
  rw [caseOf_eq_mkCase, pureView, lineRows_eq R hI, obsOf_eq_mkObs]
  exact this

theorem pure_meets_spec (R : Repairs) (hI : R.ignoreProj = true) (g : G) {β} [DecidableEq β]
    (op : Op β) (hr : Regular g op) : Spec (caseOf g op) (obsOf (pureView R g op)) := by
  cases op with
  | gridGdf k c o => exact gdf_meets_spec R hI g k c o
  | daGdf v vals k c o => exact da_gdf_meets_spec R hI g v vals k c o hr
  | gridPoly pe p c o => exact poly_meets_spec R hI g pe p c o hr
  | daPoly vals pe p c o => exact da_poly_meets_spec R hI g vals pe p c o hr.1 hr.2
  | gridLine pe p c o => exact line_meets_spec R hI g pe p c o hr

/-- **C15, end to end (repaired code, full strength)**: on every grid, after every history of
    conversions (any exporter, policy, projection, engine, variable, `cache` / `override` flag), every
    conversion exports polygons that are exactly the faces its policy promises, in order, in the requested
    coordinate system, each carrying the data value of its own face. -/
theorem export_meets_spec_after_any_history (R : Repairs) (hI : R.ignoreProj = true)
    (hS : R.sideRestore = true) (g : G) {β} [DecidableEq β] (h : List (Op β)) (op : Op β)
    (hr : Regular g op) : Spec (caseOf g op) (obsOf (viewAfter R g h op)) := by
  rw [(export_history_free R hS g h op).1]
  exact pure_meets_spec R hI g op hr

/-- **antimeridian_getter_history_free**: the property reads no cache cell — whatever conversions were made
    before (any exporter, any projection of any central longitude, cached or not, with or without the repairs),
    it returns the faces that cross for the grid's own longitudes (`p = 0`), i.e. by `antimeridian_iff` exactly
    the faces with a boundary segment spanning ≥ 180°, the same list as on a new grid, in increasing order. -/
theorem antimeridian_getter_history_free {β} (R : Repairs) (g : G) (h : List (Op β)) :
    amGetter g (run R g St.init h).1 = amGetter g (St.init : St β) ∧
    amGetter g (run R g St.init h).1 = (List.range g.n).filter (g.am 0) ∧
    (amGetter g (run R g St.init h).1).Pairwise (· < ·) := by
  refine ⟨rfl, rfl, ?_⟩
  exact List.pairwise_lt_range.filter _

/-- three faces, face 0 over the antimeridian, face 1 over the seam of projection 3 (central longitude ≠ 0) -/
def gSeam : G :=
  { n := 3, am := fun p i => if p = 3 then i == 1 else i == 0, nan := fun _ _ => false,
    pieces := fun _ _ => 1 }

/-- **regression witness** (seeded change C15g): a getter that reuses the exporters' side table returns, after a
    conversion with a projection whose seam is elsewhere, the faces crossing THAT seam — a result that depends on
    the history and is not the set of faces with a ≥ 180° segment. -/
theorem asis_getter_reusing_side_table_depends_on_history :
    amGetterReusing gSeam (run .current gSeam (St.init : St Nat) [.gridGdf ⟨.exclude, 3, 0⟩ true false]).1
      ≠ amGetter gSeam (St.init : St Nat) ∧
    amGetter gSeam (run .current gSeam (St.init : St Nat) [.gridGdf ⟨.exclude, 3, 0⟩ true false]).1 = [0] := by
  decide +kernel

/-! ## witnesses: non-vacuity, and what the code without the repairs gets wrong -/

/-- three faces: face 0 crosses the antimeridian (two pieces when split), projection 1 loses
    face 1 (NaN), projection 2 loses nothing -/
def gW : G :=
  { n := 3, am := fun _ i => i == 0, nan := fun p i => p == 1 && i == 1,
    pieces := fun _ i => if i == 0 then 2 else 1 }

def valsW : List Nat := [10, 11, 12]

example : Repairs.all.ignoreProj = true ∧ Repairs.all.sideRestore = true ∧
    Repairs.all.copyFrame = true := by decide +kernel

/-- non-vacuity of `nan_filter_compose` / `exclude_map`: with projection 1 only face 2 is left and
    carries value 12; without projection faces 1, 2 with 11, 12 -/
example : gdfRows .all gW .exclude 1 = [2] ∧ gdfData .exclude (amOf gW 1) (nnOf gW 1) valsW = [12] ∧
    gdfRows .all gW .exclude 0 = [1, 2] ∧ gdfData .exclude (amOf gW 0) (nnOf gW 0) valsW = [11, 12] := by
  decide +kernel
/-- non-vacuity of `split_map`: face 0 gives two pieces, both carrying 10 -/
example : c2oSplit gW 0 = [0, 0, 1, 2] ∧
    polyData .split (amOf gW 0) (nnOf gW 0) (c2oSplit gW 0) valsW = [10, 10, 11, 12] := by decide +kernel
/-- non-vacuity of `ignore_map_projection`: the crossing face 0 stays, the NaN face 1 goes, values follow,
    the PolyCollection is projected -/
example : gdfRows .all gW .ignore 1 = [0, 2] ∧
    gdfData .ignore (amOf gW 1) (nnFor .all gW .ignore 1) valsW = [10, 12] ∧
    polyRows .all gW .ignore 1 = ([0, 2], [], 1) := by decide +kernel
/-- the specification is not trivially true: a frame whose rows are shifted by one is rejected, and so is
    a projected request answered in lon/lat -/
example : ¬ Spec (caseOf gW (.daGdf 0 valsW ⟨.exclude, 0, 0⟩ true false))
    { err := false, rows := [1, 2], tag := 0, dataOut := some [10, 11] } := by decide +kernel
example : Spec (caseOf gW (.daGdf 0 valsW ⟨.exclude, 0, 0⟩ true false))
    { err := false, rows := [1, 2], tag := 0, dataOut := some [11, 12] } := by decide +kernel
example : ¬ Spec (caseOf gW (.gridPoly .exclude 2 true false : Op Nat))
    { err := false, rows := [1, 2], tag := 0, dataOut := none } := by decide +kernel

/-- a history of conversions of every kind — cached and UN-cached, overriding or not — then a data
    conversion: the result is the non-trivial one its arguments determine -/
def histW : List (Op Nat) :=
  [.gridGdf ⟨.exclude, 1, 0⟩ true false, .daGdf 7 valsW ⟨.split, 0, 1⟩ true false,
   .gridLine .exclude 1 true false, .daPoly valsW .exclude 1 true false,
   .gridPoly .split 0 false true, .gridLine .exclude 0 true false, .gridPoly .ignore 2 false false]

example : Regular gW (.daPoly valsW .exclude 1 false false) := by
  refine ⟨by decide +kernel, ?_⟩
  intro i hi; simp only [gW]; split <;> decide +kernel
example : viewAfter .all gW histW (.daPoly valsW .exclude 1 false false)
    = { err := false, rows := [2], tag := 1, data := some [12] } := by decide +kernel

/-- **as-is** (fixes/C15-export-side-tables.patch not applied): an UN-cached conversion rewrites the side tables
    (`non_nan_polygon_indices`, `antimeridian_face_indices`) while the cached collection stays, so
    the next data conversion served from the cache re-indexes its data with the wrong tables:
    2 values on 1 polygon.  `export_history_free` is false for the unrepaired code. -/
theorem asis_uncached_conversion_poisons :
    ¬ (∀ (g : G) (h : List (Op Nat)) (op : Op Nat),
        viewAfter .asIs g h op = viewAfter .asIs g [] op) := by
  intro hall
  have := hall gW [.daPoly valsW .exclude 1 true false, .gridPoly .split 0 false false]
    (.daPoly valsW .exclude 1 true false)
  revert this; decide +kernel

theorem asis_uncached_conversion_breaks_spec :
    ¬ Spec (caseOf gW (.daPoly valsW .exclude 1 true false))
      (obsOf (viewAfter .asIs gW [.daPoly valsW .exclude 1 true false, .gridPoly .split 0 false false]
        (.daPoly valsW .exclude 1 true false))) := by decide +kernel

/-- the same history with the repair: the specification holds (instance of
    `export_meets_spec_after_any_history`) -/
example : Spec (caseOf gW (.daPoly valsW .exclude 1 true false))
    (obsOf (viewAfter .all gW [.daPoly valsW .exclude 1 true false, .gridPoly .split 0 false false]
      (.daPoly valsW .exclude 1 true false))) := by decide +kernel

/-- **known finding of the code as it stands** (`Repairs.current`: `copyFrame` off, see there):
    `UxDataArray.to_geodataframe` writes its column into the frame `Grid.to_geodataframe` handed out
    earlier, so `returned_object_stable` is false without `copyFrame`. -/
theorem asis_returned_frame_mutated :
    ¬ (∀ (g : G) (s : St Nat) (h2 : List (Op Nat)) (id : Nat) (fr : Frame Nat),
        s.heap[id]? = some fr → (run .current g s h2).1.heap[id]? = some fr) := by
  intro hall
  have := hall gW (run .current gW St.init [.gridGdf ⟨.exclude, 0, 0⟩ true false]).1
    [.daGdf 0 valsW ⟨.exclude, 0, 0⟩ true false] 0
    { rows := [1, 2], tag := 0, eng := 0, cols := [] } (by decide +kernel)
  revert this; decide +kernel

/-- the code as it stands meets the hypotheses of `export_history_free`, `export_meets_spec_after_any_history`
    and of `pure_meets_spec` (only `returned_object_stable` needs the switch that is off); the geometry of
    handed-out frames is stable in any case (`returned_geometry_stable`) -/
example : Repairs.current.ignoreProj = true ∧ Repairs.current.sideRestore = true ∧
    Repairs.current.copyFrame = false := by decide +kernel
example : viewAfter .current gW histW (.daPoly valsW .exclude 1 false false)
    = { err := false, rows := [2], tag := 1, data := some [12] } := by decide +kernel

/-- **as-is** (fixes/C15-ignore-honours-projection.patch not applied): `ignore` + projection on a grid with a
    crossing face — the non-NaN positions were computed after deleting the crossing faces but index the
    full array: the NaN face 1 is exported, faces 0 and 2 are lost. -/
theorem asis_gdf_ignore_projection_misaligned :
    ¬ Spec (caseOf gW (.gridGdf ⟨.ignore, 1, 0⟩ true false : Op Nat))
      (obsOf (pureView .asIs gW (.gridGdf ⟨.ignore, 1, 0⟩ true false : Op Nat))) := by decide +kernel

/-- **as-is** (same patch): PolyCollection `ignore` + projection — all faces are exported in lon/lat although a
    projection was requested, and the data are filtered with the non-NaN table: 1 value for 3 polygons. -/
theorem asis_poly_ignore_projection_data_misaligned :
    ¬ Spec (caseOf gW (.daPoly valsW .ignore 1 true false))
      (obsOf (pureView .asIs gW (.daPoly valsW .ignore 1 true false))) := by decide +kernel

theorem asis_line_ignore_projection_not_projected :
    ¬ Spec (caseOf gW (.gridLine .ignore 2 true false : Op Nat))
      (obsOf (pureView .asIs gW (.gridLine .ignore 2 true false : Op Nat))) := by decide +kernel

/-- the non-NaN table as computed before the NaN-mask repair: the mask reduced over one axis only, so
    `np.where(mask)[0]` lists every good position once per coordinate column -/
def nnOneAxis (g : G) (p : Nat) : List Nat :=
  (posWhere (fun i => !g.nan p i) (keep g p)).flatMap (fun k => [k, k])

/-- **regression witness for the committed NaN-mask repair**: with that table the frame shows every face
    twice. -/
theorem asis_nan_mask_one_axis_duplicates :
    ¬ Spec (caseOf gW (.gridGdf ⟨.exclude, 2, 0⟩ true false : Op Nat))
      { err := false, rows := (gather (keep gW 2) (nnOneAxis gW 2)).map Int.ofNat, tag := 2,
        dataOut := none } := by decide +kernel

/-- `Grid.to_linecollection` as it was before the line-cache repair: the cache key omits the projection -/
def lineCoreNoProj (g : G) (s : St Nat) (pe : Pe) (p : Nat) (o : Bool) : St Nat × List Nat × Nat :=
  match s.line with
  | some e => if e.pe = pe ∧ o = false then (s, e.rows, e.tag) else lineCompute .all g s pe 0 true
  | none =>
    let r := lineRows .all g pe p
    ({ s with line := some ⟨pe, 0, r.1, r.2⟩ }, r)

/-- **regression witness for the committed line-cache repair**: such a cache serves the projected
    collection to the next unprojected request. -/
theorem asis_line_cache_without_projection_is_stale :
    (lineCoreNoProj gW (lineCoreNoProj gW St.init .exclude 1 false).1 .exclude 0 false).2
      ≠ lineRows .all gW .exclude 0 := by decide +kernel

end UxVerif.C15
