/-
  C10 — xarray operations keep a UxDataArray attached to a consistent grid.

  Model `UxVerif.Model.UxdaAlgebra` (facts about it alone: `Lemmas.UxdaAlgebra`), for ALL tables of
  constructor paths (observed by harness/c10.py), heaps, states and programs of ANY length.  One step:
  `step_good`, `step_preserves_inv`, `same_grid`; programs: `program_inv*`, `program_same_grid`; copies:
  `deep_copy_independent`, `copy_api_*`; the step specification the driver evaluates: `specB_iff`,
  `model_meets_spec`; public calls: `uxcall_*`, `remap_result_dim`, `topo_result_dim`; indexers: `normIdx_*`,
  `isel_commutes_with_transpose`; the converse: `*_path_loses_grid`, `lost_stays_lost`.  `asis_*`: behaviour
  that breaks the property, most under the observed table `asIs`, two under every table (corpus/C10).
  Not proved (differential test only): which path a public method takes, value equality with plain xarray,
  what `Grid.isel` / `get_dual` build (observed parameters), `Grid.__eq__`.
-/
import UxVerif.Lemmas.UxdaAlgebra

namespace UxVerif.C10
open UxVerif.UxdaAlgebra

/-! ## the invariant, and how shapes keep it -/

def DimsOK (c : Counts) (ds : Dims) : Prop := ∀ p ∈ ds, p.1.isGrid = true → p.2 = c.get p.1

def Attached (s : State) : Prop :=
  ∃ g r, s.arr.grid = some g ∧ s.heap[g]? = some r ∧ DimsOK r.counts s.arr.dims

/-- the property's invariant: a `UxDataArray`, attached to a live grid, whose node / edge / face
    dimensions have that grid's element counts -/
def Inv (s : State) : Prop := s.arr.isUx = true ∧ Attached s

theorem dimsOKB_iff {c : Counts} {ds : Dims} : dimsOKB c ds = true ↔ DimsOK c ds := by
  unfold dimsOKB DimsOK
  simp only [List.all_eq_true, Bool.or_eq_true, Bool.not_eq_true', beq_iff_eq]
  refine forall₂_congr fun p _ => ?_
  cases p.1.isGrid <;> simp

theorem attachedB_iff {s : State} : attachedB s = true ↔ Inv s := by
  unfold attachedB Inv Attached
  cases s.arr.grid with
  | none => simp
  | some g => cases hr : s.heap[g]? <;> simp [hr, dimsOKB_iff]

theorem cur_of_inv {s : State} (h : Inv s) :
    ∃ g r, cur s = some (g, r) ∧ DimsOK r.counts s.arr.dims := by
  obtain ⟨hu, g, r, hg, hr, hd⟩ := h
  exact ⟨g, r, cur_eq_some.mpr ⟨hu, hg, hr⟩, hd⟩

theorem heap_append_old {h : Heap} {g : Nat} {r q : GridRec} (hg : h[g]? = some r) :
    (h ++ [q])[g]? = some r := by
  rw [List.getElem?_append_left (getElem?_lt hg)]; exact hg

theorem DimsOK.sub {c : Counts} {ds ds' : Dims} (h : ∀ p ∈ ds', p ∈ ds) (hd : DimsOK c ds) :
    DimsOK c ds' := fun p hp hg => hd p (h p hp) hg

theorem DimsOK.append {c : Counts} {l r : Dims} (hl : DimsOK c l) (hr : DimsOK c r) :
    DimsOK c (l ++ r) := fun p hp => (List.mem_append.mp hp).elim (hl p) (hr p)

theorem DimsOK.single {c : Counts} {p : Dim × Nat} (h : p.1.isGrid = true → p.2 = c.get p.1) :
    DimsOK c [p] := fun q hq hg => by
  cases List.mem_singleton.mp hq
  exact h hg

theorem DimsOK.cons {c : Counts} {p : Dim × Nat} {ds : Dims} (hp : p.1.isGrid = true → p.2 = c.get p.1)
    (h : DimsOK c ds) : DimsOK c (p :: ds) := (DimsOK.single hp).append h

theorem DimsOK.map {c c' : Counts} {ds : Dims} {f : Dim × Nat → Dim × Nat} (h : DimsOK c ds)
    (hf : ∀ p ∈ ds, (p.1.isGrid = true → p.2 = c.get p.1) → (f p).1.isGrid = true →
      (f p).2 = c'.get (f p).1) : DimsOK c' (ds.map f) := by
  intro q hq
  obtain ⟨p, hp, rfl⟩ := List.mem_map.mp hq
  exact hf p hp (h p hp)

theorem DimsOK.map_if_nonGrid {c : Counts} {ds : Dims} {d : Dim} {f : Dim × Nat → Dim × Nat}
    (h : DimsOK c ds) (hf : ∀ p, (f p).1.isGrid = false) :
    DimsOK c (ds.map (fun p => if p.1 = d then f p else p)) :=
  h.map fun p _ hp => by
    split
    · intro hg
      rw [hf p] at hg
      cases hg
    · exact hp

theorem DimsOK.setLast {c : Counts} {ds : Dims} (d : Dim) (h : DimsOK c ds.dropLast) :
    DimsOK c (setLast ds d (c.get d)) :=
  h.append (DimsOK.single fun _ => rfl)

/-- when the last dimension is the only grid dimension, the leading ones fit every grid -/
theorem leading_not_grid {c : Counts} {ds : Dims} {d : Dim} {n : Nat} (hc : centred ds = some d)
    (hl : ds.getLast? = some (d, n)) : DimsOK c ds.dropLast := by
  obtain ⟨m, hm⟩ := centred_eq_some.mp hc
  obtain ⟨ys, rfl⟩ := List.getLast?_eq_some_iff.mp hl
  simp only [List.filter_append, List.filter_cons, List.filter_nil, centred_isGrid hc, if_true] at hm
  have hnil : ys.filter (fun p => p.1.isGrid) = [] := by
    rcases List.append_eq_singleton_iff.mp hm with ⟨h, _⟩ | ⟨_, h⟩
    · exact h
    · cases h
  intro p hp hpg
  rw [List.dropLast_concat] at hp
  have : p ∈ ys.filter (fun p => p.1.isGrid) := List.mem_filter.mpr ⟨hp, hpg⟩
  rw [hnil] at this
  cases this

theorem DimsOK.setLen_centred {c : Counts} {ds : Dims} {d : Dim} (hc : centred ds = some d) :
    DimsOK c (setLen ds d (c.get d)) := by
  intro q hq hg
  obtain ⟨p, hp, rfl⟩ := List.mem_map.mp hq
  by_cases hpd : p.1 = d
  · rw [if_pos hpd]
  · rw [if_neg hpd] at hg
    exact absurd (centred_only hc p hp hg) hpd

/-- in scope, plain xarray only drops, permutes, relabels or adds dimensions that are not grid dimensions -/
theorem xdims_ok {c : Counts} {op : Op} {ds ds' : Dims} (hs : Scoped op = true)
    (hx : xdims op ds = some ds') (h : DimsOK c ds) : DimsOK c ds' := by
  cases op with
  | elem _ | renameName | copy _ _ => cases hx; exact h
  | along _ _ =>
    obtain ⟨_, rfl⟩ := Option.ite_some_none_eq_some.mp hx
    exact h
  | index d sel =>
    cases sel with
    | drop =>
      obtain ⟨_, rfl⟩ := Option.ite_some_none_eq_some.mp hx
      exact h.sub fun p hp => (List.mem_filter.mp hp).1
    | len n =>
      obtain ⟨_, rfl⟩ := Option.ite_some_none_eq_some.mp hx
      exact h.map_if_nonGrid fun _ => (Bool.not_eq_true' _).mp hs
  | reduce _ =>
    obtain ⟨_, rfl⟩ := Option.ite_some_none_eq_some.mp hx
    exact h.sub fun p hp => (List.mem_filter.mp hp).1
  | transpose _ =>
    obtain ⟨hp, rfl⟩ := Option.ite_some_none_eq_some.mp hx
    exact h.sub fun p hp' => (List.isPerm_iff.mp hp).mem_iff.mp hp'
  | renameDim _ _ =>
    obtain ⟨_, rfl⟩ := Option.ite_some_none_eq_some.mp hx
    exact h.map_if_nonGrid fun _ => rfl
  | concatAlong _ _ =>
    obtain ⟨_, rfl⟩ := Option.ite_some_none_eq_some.mp hx
    exact h.map_if_nonGrid fun _ => rfl
  | concatNew _ _ =>
    obtain ⟨_, rfl⟩ := ite_none_some_eq_some.mp hx
    exact h.cons nofun
  | expandDims _ last =>
    cases last with
    | false =>
      obtain ⟨_, rfl⟩ := ite_none_some_eq_some.mp hx
      exact h.cons nofun
    | true =>
      obtain ⟨_, rfl⟩ := ite_none_some_eq_some.mp hx
      exact h.append (DimsOK.single nofun)
  | gridIsel _ | integrate | gradient | difference | topoAgg _ | remap _ _ | getDual _ _ | getDualR _ =>
    cases hx

/-! ## one step -/

/-- the operation is in scope and (if it is an xarray operation) its class is built through a path
    that re-attaches the grid -/
def OpGood (T : Table) (op : Op) : Prop :=
  Scoped op = true ∧ ∀ k, op.kind = some k → (T k).good = true

theorem step_good {T : Table} {s s' : State} {op : Op} (hg : OpGood T op) (hi : Inv s)
    (h : step T s op = some s') :
    Inv s' ∧ (op.sameGrid = true → s'.arr.grid = s.arr.grid ∧ s'.heap = s.heap) := by
  obtain ⟨g, r, hc, hd⟩ := cur_of_inv hi
  obtain ⟨hu, hgr, hr⟩ := cur_eq_some.mp hc
  have xop : ∀ k, op.kind = some k →
      Inv s' ∧ (op.sameGrid = true → s'.arr.grid = s.arr.grid ∧ s'.heap = s.heap) := fun k hk => by
    obtain ⟨ds, hx, rfl⟩ := step_of_kind hk h
    rw [build_good (hg.2 k hk) hu]
    exact ⟨⟨rfl, g, r, hgr, hr, xdims_ok hg.1 hx hd⟩, fun _ => ⟨rfl, rfl⟩⟩
  have last : op.onLastDim = true →
      Inv s' ∧ (op.sameGrid = true → s'.arr.grid = s.arr.grid ∧ s'.heap = s.heap) := fun hop => by
    obtain ⟨ds, rfl, hds | ⟨d, hds⟩⟩ := step_lastDim hop hc h
    · exact ⟨⟨rfl, g, r, rfl, hr, hds ▸ hd.sub fun _ hp => List.dropLast_subset _ hp⟩,
        fun _ => ⟨hgr.symm, rfl⟩⟩
    · exact ⟨⟨rfl, g, r, rfl, hr, hds ▸ DimsOK.setLast d (hd.sub fun _ hp => List.dropLast_subset _ hp)⟩,
        fun _ => ⟨hgr.symm, rfl⟩⟩
  cases op with
  | elem _ | along _ _ | index _ _ | reduce _ | transpose _ | renameDim _ _ | renameName
  | concatAlong _ _ | concatNew _ _ | expandDims _ _ => exact xop _ rfl
  | copy deep fresh =>
    cases deep with
    | false =>
      cases h
      rw [build_good rfl hu]
      exact ⟨⟨rfl, g, r, hgr, hr, hd⟩, fun _ => ⟨rfl, rfl⟩⟩
    | true =>
      rw [step_deepCopy hc h]
      exact ⟨⟨rfl, _, _, rfl, heap_append_last _ _, hd⟩, nofun⟩
  | gridIsel c =>
    obtain ⟨_, _, d, _, hcd, rfl⟩ := step_gridIsel h
    exact ⟨⟨rfl, _, _, rfl, heap_append_last _ _, DimsOK.setLen_centred hcd⟩, nofun⟩
  | integrate | gradient | difference | topoAgg _ => exact last rfl
  | remap g2 dest =>
    obtain ⟨_, _, r2, d, _, h2, hcd, hl, rfl⟩ := step_remap h
    exact ⟨⟨rfl, g2, r2, rfl, h2, DimsOK.setLast dest (leading_not_grid hcd hl)⟩, nofun⟩
  | getDual closed c =>
    cases (hg.1 : closed = true)
    rw [step, hc] at h
    cases h
    refine ⟨⟨rfl, _, _, rfl, heap_append_last _ _, hd.map fun p _ hp hpg => ?_⟩, nofun⟩
    exact (hp (swap_isGrid p.1 ▸ hpg)).trans (dual_get_swap r.counts p.1).symm
  | getDualR c =>
    rw [step, hc] at h
    split at h
    · rename_i x d hx hcd
      cases hx
      obtain ⟨hne, rfl⟩ := ite_none_some_eq_some.mp h
      refine ⟨⟨rfl, _, _, rfl, heap_append_last _ _, hd.map fun p hp hp' hpg => ?_⟩, nofun⟩
      -- the only grid dimension is `d`, which is neither `edge` (excluded) nor, below, `node`
      split
      · rfl
      · rename_i hpn
        rw [if_neg hpn, swap_isGrid] at hpg
        have hpd := centred_only hcd p hp hpg
        cases hp1 : p.1 with
        | node => exact absurd hp1 hpn
        | edge => rw [← hpd, hp1] at hne; exact absurd rfl hne
        | face => rw [hp' hpg, hp1]; rfl
        | other k => rw [hp1] at hpg; cases hpg
    · cases h

/-- **Every in-scope operation built through a re-attaching path keeps the invariant.** -/
theorem step_preserves_inv {T : Table} {s s' : State} {op : Op} (hg : OpGood T op) (hi : Inv s)
    (h : step T s op = some s') : Inv s' :=
  (step_good hg hi h).1

/-- **Operations other than deep copy, grid-`isel`, remap and `get_dual` return an array attached to
    THE SAME grid object, and allocate no grid.** -/
theorem same_grid {T : Table} {s s' : State} {op : Op} (hg : OpGood T op)
    (hs : op.sameGrid = true) (hi : Inv s) (h : step T s op = some s') :
    s'.arr.grid = s.arr.grid ∧ s'.heap = s.heap :=
  (step_good hg hi h).2 hs

/-- **`get_dual` REPAIRED keeps the invariant on EVERY mesh** — no hypothesis on the mesh (closed or partial,
    hanging nodes or not), for node- and face-centred data with any leading dimensions in any order -/
theorem get_dual_repaired_inv {T : Table} {s s' : State} {c : Counts} (hi : Inv s)
    (h : step T s (.getDualR c) = some s') : Inv s' :=
  step_preserves_inv ⟨rfl, fun _ hk => by cases hk⟩ hi h

/-! ## programs of any length -/

/-- **The invariant holds after every program**, whatever its length, as long as each operation is
    in scope and built through a re-attaching path. -/
theorem program_inv {T : Table} : ∀ (p : List Op) (s s' : State),
    (∀ op ∈ p, OpGood T op) → Inv s → run T s p = some s' → Inv s' :=
  run_preserves fun _ _ _ hg hi h => step_preserves_inv hg hi h

/-- … and after EVERY PREFIX of a program that runs to completion -/
theorem program_inv_every_prefix {T : Table} (p q : List Op) (s s' : State)
    (hg : ∀ op ∈ p ++ q, OpGood T op) (hi : Inv s) (h : run T s (p ++ q) = some s') :
    ∃ s1, run T s p = some s1 ∧ Inv s1 := by
  rw [run_append] at h
  obtain ⟨s1, h1, _⟩ := Option.bind_eq_some_iff.mp h
  exact ⟨s1, h1, program_inv p s s1 (fun op ho => hg op (List.mem_append_left _ ho)) hi h1⟩

/-- every re-attaching table: the property's invariant for ALL in-scope programs -/
theorem program_inv_good_table {T : Table} (hT : ∀ k, (T k).good = true) (p : List Op)
    (s s' : State) (hp : ∀ op ∈ p, Scoped op = true) (hi : Inv s) (h : run T s p = some s') :
    Inv s' :=
  program_inv p s s' (fun op ho => ⟨hp op ho, fun k _ => hT k⟩) hi h

/-- FULL statement (false as the code stands — `asis_program_inv_false`):
      ∀ p s s', Inv s → run asIs s p = some s' → Inv s'
    PARTIAL: programs avoiding NumPy functions / where / clip / fillna / astype / rolling (built by
    xarray as plain `DataArray`s), length-changing positional indexing of a grid dimension, and the
    dual of a partial mesh. -/
theorem program_inv_asis_partial (p : List Op) (s s' : State)
    (hp : ∀ op ∈ p, Scoped op = true ∧ safeAsIs op = true) (hi : Inv s)
    (h : run asIs s p = some s') : Inv s' :=
  program_inv p s s'
    (fun op ho => ⟨(hp op ho).1, fun k hk => by
      have := (hp op ho).2
      rwa [safeAsIs, hk] at this⟩) hi h

/-- exactly six classes are built through a path that loses the grid with the installed xarray -/
theorem asis_bad_kinds (k : XKind) :
    (asIs k).good = false ↔ k ∈ [XKind.ufunc, .whereOp, .clip, .fillna, .astype, .rolling] := by
  cases k <;> decide +kernel

/-- a whole program of same-grid operations ends on the grid it started on -/
theorem program_same_grid {T : Table} : ∀ (p : List Op) (s s' : State),
    (∀ op ∈ p, OpGood T op ∧ op.sameGrid = true) → Inv s → run T s p = some s' →
    s'.arr.grid = s.arr.grid ∧ s'.heap = s.heap :=
  fun p s s' hg hi h =>
    (run_preserves (P := fun s1 => Inv s1 ∧ s1.arr.grid = s.arr.grid ∧ s1.heap = s.heap)
      (fun _ _ _ ho hs h1 =>
        have h1s := step_good ho.1 hs.1 h1
        ⟨h1s.1, (h1s.2 ho.2).1.trans hs.2.1, (h1s.2 ho.2).2.trans hs.2.2⟩)
      p s s' hg ⟨hi, rfl, rfl⟩ h).2

/-! ## copies -/

/-- a deep copy's grid: a NEW object with equal counts whose backing store no earlier grid uses;
    the earlier grids are untouched -/
def DeepCopyOK (s s' : State) : Prop :=
  ∃ g r r', cur s = some (g, r) ∧ s'.arr.grid = some s.heap.length ∧ s'.heap = s.heap ++ [r'] ∧
    r'.counts = r.counts ∧ ∀ q ∈ s.heap, q.store ≠ r'.store

/-- **A deep copy whose `Grid.copy` allocates its own store yields an equal but independent grid**;
    the new grid id differs from the old one, and the array keeps the invariant. -/
theorem deep_copy_independent {T : Table} {s s' : State} (hi : Inv s)
    (h : step T s (.copy true true) = some s') :
    DeepCopyOK s s' ∧ s'.arr.grid ≠ s.arr.grid ∧ s'.arr.dims = s.arr.dims ∧ Inv s' := by
  have hi' := step_preserves_inv ⟨rfl, fun _ hk => by cases hk⟩ hi h
  obtain ⟨g, r, hc, -⟩ := cur_of_inv hi
  obtain ⟨-, hgr, hr⟩ := cur_eq_some.mp hc
  cases step_deepCopy hc h
  refine ⟨⟨g, r, _, hc, rfl, rfl, rfl, freshStore_fresh s.heap⟩, fun e => ?_, rfl, hi'⟩
  -- the new grid's id is the old heap's length, the old grid's id is below it
  rw [hgr] at e
  exact absurd (Option.some.inj e) (Nat.ne_of_gt (getElem?_lt hr))

/-- **Every deep way of copying** — `copy()`, `copy(deep=True)`, `copy(data=x)`, `copy(deep=True, data=x)`,
    `copy.deepcopy` — at any point of a program (any state satisfying the invariant) yields an equal,
    independent grid when `Grid.copy` allocates; `data=` plays no role. -/
theorem copy_api_deep_independent {T : Table} {s s' : State} (api : CopyApi) (hd : api.deep = true)
    (hi : Inv s) (h : step T s (Op.ofCopy api true) = some s') :
    DeepCopyOK s s' ∧ s'.arr.grid ≠ s.arr.grid ∧ s'.arr.dims = s.arr.dims ∧ Inv s' := by
  rw [Op.ofCopy, hd] at h
  exact deep_copy_independent hi h

/-- the shallow ways — `copy(deep=False)`, `copy(deep=False, data=x)`, `copy.copy` — keep THE SAME grid -/
theorem copy_api_shallow_same_grid {T : Table} {s s' : State} (api : CopyApi) (f : Bool)
    (hd : api.deep = false) (hi : Inv s) (h : step T s (Op.ofCopy api f) = some s') :
    s'.arr.grid = s.arr.grid ∧ s'.heap = s.heap ∧ Inv s' := by
  rw [Op.ofCopy, hd] at h
  have := step_good (op := .copy false f) ⟨rfl, fun _ hk => by cases hk⟩ hi h
  exact ⟨(this.2 rfl).1, (this.2 rfl).2, this.1⟩

theorem copy_api_deep_iff (api : CopyApi) :
    api.deep = false ↔ api ∈ [CopyApi.deepFalse, .deepFalseData, .pyCopy] := by
  cases api <;> decide +kernel

/-- as the code stands `Grid.copy` hands the SAME `_ds` to the new `Grid` (grid/grid.py:1406-1413):
    the copy is a new object but not independent -/
theorem asis_deep_copy_shares_store {T : Table} {s s' : State} (hi : Inv s)
    (h : step T s (.copy true false) = some s') : ¬ DeepCopyOK s s' := by
  obtain ⟨g, r, hc, -⟩ := cur_of_inv hi
  cases step_deepCopy hc h
  rintro ⟨_, _, r', -, -, hh, -, hfresh⟩
  -- the one appended record has the store of `r`, which is in the heap
  cases List.append_cancel_left hh
  exact hfresh r (List.mem_of_getElem? (cur_eq_some.mp hc).2.2) rfl

/-! ## the decidable step specification and its reflection -/

/-- The property for one step `s --op--> s'`, with `xd` the dimensions plain xarray computes. -/
structure Spec (s : State) (op : Op) (s' : State) (xd : Dims) : Prop where
  isUx : s'.arr.isUx = true
  attached : Attached s'
  same : op.sameGrid = true → s'.arr.grid = s.arr.grid ∧ s'.heap = s.heap
  deep : (∃ f, op = .copy true f) → DeepCopyOK s s'
  dest : ∀ g2 d, op = .remap g2 d → s'.arr.grid = some g2
  byName : ∀ c, op = .gridIsel c →
    ∃ d, centred s.arr.dims = some d ∧ s'.arr.dims = setLen s.arr.dims d (c.get d)
  shape : op.isX = true → s'.arr.dims = xd

theorem Spec.inv {s s' : State} {op : Op} {xd : Dims} (h : Spec s op s' xd) : Inv s' :=
  ⟨h.isUx, h.attached⟩

theorem deepCopyB_iff {s s' : State} : deepCopyB s s' = true ↔ DeepCopyOK s s' := by
  unfold deepCopyB DeepCopyOK
  constructor
  · intro h
    split at h
    · rename_i g r g' hc hg'
      obtain ⟨hlen, h⟩ := Bool.and_eq_true_iff.mp h
      cases eq_of_beq hlen
      split at h
      · rename_i r' hr'
        simp at h
        exact ⟨g, r, r', hc, hg', h.2, h.1.1, h.1.2⟩
      · cases h
    · cases h
  · rintro ⟨g, r, r', hc, hg', hheap, hcnt, hst⟩
    simp [hc, hg', hcnt, hheap]
    exact hst

theorem gridIselShapeB_iff {s s' : State} {c : Counts} : gridIselShapeB s c s' = true ↔
    ∃ d, centred s.arr.dims = some d ∧ s'.arr.dims = setLen s.arr.dims d (c.get d) := by
  unfold gridIselShapeB
  cases centred s.arr.dims <;> simp

/-- `failing` concatenates one-clause lists; `slot`: the clauses checked "when a grid is attached" -/
theorem specB_iff {s s' : State} {op : Op} {xd : Dims} :
    specB s op s' xd = true ↔ Spec s op s' xd := by
  simp only [specB, failing, List.isEmpty_iff, List.append_eq_nil_iff, ite_nil_iff, ite_else_nil_iff]
  constructor
  · rintro ⟨⟨⟨⟨⟨hu, hg⟩, ha⟩, hsame⟩, hE⟩, hshape⟩
    obtain ⟨g', hg'⟩ := Option.isSome_iff_exists.mp hg
    have slot : ∀ b : Bool, (s'.arr.grid.isNone || b) = true → b = true := fun b hb => by
      rw [hg'] at hb; exact hb
    rw [hu] at ha
    refine ⟨hu, (attachedB_iff.mp (slot _ ha)).2, fun hs => ?_, ?_, ?_, ?_, fun hx => eq_of_beq (hshape hx)⟩
    · have := Bool.and_eq_true_iff.mp (slot _ (hsame hs))
      exact ⟨eq_of_beq this.1, eq_of_beq this.2⟩
    · rintro ⟨f, rfl⟩
      exact deepCopyB_iff.mp (slot _ (ite_nil_iff.mp hE))
    · rintro g2 d rfl
      exact eq_of_beq (slot _ (ite_nil_iff.mp hE))
    · rintro c rfl
      exact gridIselShapeB_iff.mp (slot _ (ite_nil_iff.mp hE))
  · intro h
    obtain ⟨g', _, hg', -⟩ := h.attached
    refine ⟨⟨⟨⟨⟨h.isUx, by rw [hg']; rfl⟩, by rw [attachedB_iff.mpr h.inv, Bool.or_true]⟩,
      fun hs => ?_⟩, ?_⟩, fun hx => by rw [h.shape hx, beq_self_eq_true]⟩
    · obtain ⟨e1, e2⟩ := h.same hs
      rw [e1, e2, beq_self_eq_true, beq_self_eq_true, Bool.and_true, Bool.or_true]
    · cases op with
      | copy deep f =>
        cases deep with
        | true => exact ite_nil_iff.mpr (by rw [deepCopyB_iff.mpr (h.deep ⟨f, rfl⟩), Bool.or_true])
        | false => rfl
      | remap g2 d => exact ite_nil_iff.mpr (by rw [h.dest g2 d rfl, beq_self_eq_true, Bool.or_true])
      | gridIsel c =>
        exact ite_nil_iff.mpr (by rw [gridIselShapeB_iff.mpr (h.byName c rfl), Bool.or_true])
      | _ => rfl

/-- the hypotheses under which the MODEL meets the step specification: the operation is in scope, its
    path re-attaches, and a deep copy's grid gets its own store -/
def OpGoodS (T : Table) (op : Op) : Prop := OpGood T op ∧ op ≠ .copy true false

/-- **The model meets the specification the driver evaluates on the implementation**: for every
    table, state and operation satisfying `OpGoodS`, the step's result is a `UxDataArray` attached to
    a live grid with matching element counts; the same grid where the property says so; an equal,
    independent grid after a deep copy; and the shape plain xarray computes. -/
theorem model_meets_spec {T : Table} {s s' : State} {op : Op} (hg : OpGoodS T op) (hi : Inv s)
    (h : step T s op = some s') :
    ∀ xd, (op.isX = true → xdims op s.arr.dims = some xd) → Spec s op s' xd := by
  intro xd hxd
  obtain ⟨hinv, hsame⟩ := step_good hg.1 hi h
  refine ⟨hinv.1, hinv.2, hsame, ?_, ?_, ?_, fun hx => ?_⟩
  · rintro ⟨f, rfl⟩
    cases f with
    | true => exact (deep_copy_independent hi h).1
    | false => exact absurd rfl hg.2
  · rintro g2 d rfl
    obtain ⟨_, _, _, _, _, _, _, _, rfl⟩ := step_remap h
    rfl
  · rintro c rfl
    obtain ⟨_, _, d, _, hcd, rfl⟩ := step_gridIsel h
    exact ⟨d, hcd, rfl⟩
  · have hxd' := hxd hx
    rcases isX_cases hx with ⟨deep, f, rfl⟩ | ⟨k, hk⟩
    · cases hxd'
      cases deep with
      | false => cases h; exact build_dims _ _ _
      | true =>
        obtain ⟨g, r, hc, -⟩ := cur_of_inv hi
        rw [step_deepCopy hc h]
    · obtain ⟨ds, h1, rfl⟩ := step_of_kind hk h
      rw [h1] at hxd'
      cases hxd'
      exact build_dims _ _ _

/-! ## every public uxarray call that returns a `UxDataArray` -/

theorem uxcall_good {T : Table} (c : UxCall) (hs : Scoped c.op = true) : OpGood T c.op :=
  ⟨hs, fun k hk => by cases c <;> cases hk⟩

/-- **Every public call of the table keeps the invariant** (for every value of its kind-selecting
    keywords, every table, every state): remap × {nodes, edge centers, face centers}, the ten
    aggregations × destination, gradient, difference, integrate, isel × dimension, the three subset
    accessors × element, the cross-section, get_dual (of a mesh whose nodes all have ≥ 3 faces). -/
theorem uxcall_preserves_inv {T : Table} {s s' : State} (c : UxCall) (hs : Scoped c.op = true)
    (hi : Inv s) (h : step T s c.op = some s') : Inv s' :=
  step_preserves_inv (uxcall_good c hs) hi h

/-- … hence so does a public call followed by ANY program of in-scope operations built through
    re-attaching paths -/
theorem uxcall_then_program_inv {T : Table} {s s' : State} (c : UxCall) (p : List Op)
    (hs : Scoped c.op = true) (hp : ∀ op ∈ p, OpGood T op) (hi : Inv s)
    (h : run T s (c.op :: p) = some s') : Inv s' :=
  program_inv (c.op :: p) s s' (List.forall_mem_cons.mpr ⟨uxcall_good c hs, hp⟩) hi h

/-- **remap names the element dimension after `remap_to`'s kind and gives it the DESTINATION grid's count
    of that kind**, and attaches the destination grid: "edge centers" ↦ `(n_edge, dest.n_edge)`, never a
    dimension named for another kind. -/
theorem remap_result_dim {T : Table} {s s' : State} {g2 : Nat} {to : Elem}
    (h : step T s (UxCall.remapNN g2 to).op = some s') :
    ∃ r2, s.heap[g2]? = some r2 ∧ s'.arr.grid = some g2 ∧
      s'.arr.dims.getLast? = some (to.dim, r2.counts.get to.dim) ∧
      s'.arr.dims.dropLast = s.arr.dims.dropLast := by
  obtain ⟨_, _, r2, _, _, h2, _, _, rfl⟩ := step_remap h
  exact ⟨r2, h2, rfl, List.getLast?_concat, List.dropLast_concat⟩

/-- the same for the aggregations: the result's element dimension is the DESTINATION kind's, same grid -/
theorem topo_result_dim {T : Table} {s s' : State} {a : Agg} {dest : Elem}
    (h : step T s (UxCall.topo a dest).op = some s') :
    ∃ g r, cur s = some (g, r) ∧ s'.arr.grid = some g ∧
      s'.arr.dims.getLast? = some (dest.dim, r.counts.get dest.dim) := by
  rw [UxCall.op, step] at h
  split at h
  · rename_i g r hc
    obtain ⟨_, rfl⟩ := Option.ite_some_none_eq_some.mp h
    exact ⟨g, r, hc, rfl, List.getLast?_concat⟩
  · cases h

/-! ## indexer forms, and grid-`isel` by name -/

/-- **Every form of indexer selects positions inside the dimension** -/
theorem normIdx_lt {n : Nat} {idx : Idx} {l : List Nat} (h : normIdx n idx = some l) : ∀ p ∈ l, p < n := by
  cases idx with
  | ints li => exact (mapM_intPos li l h).2
  | slice a b st => exact sliceIdx_lt h
  | mask m =>
    obtain ⟨hn, rfl⟩ := Option.ite_some_none_eq_some.mp h
    intro p hp
    obtain ⟨j, rfl, hj⟩ := (mem_maskPos 0 m p).mp hp
    rw [Nat.zero_add, ← hn]
    exact getElem?_lt hj

/-- an integer list (negative entries, duplicates, any NumPy integer dtype) selects as many elements as it has
    entries -/
theorem normIdx_ints_length {n : Nat} {li : List Int} {l : List Nat} (h : normIdx n (.ints li) = some l) :
    l.length = li.length := (mapM_intPos li l h).1

/-- **a boolean mask selects exactly its `true` positions** (as many elements as it has `true` entries),
    in increasing order of position -/
theorem normIdx_mask {n : Nat} {m : List Bool} {l : List Nat} (h : normIdx n (.mask m) = some l) :
    l.length = m.count true ∧ ∀ i, i ∈ l ↔ m[i]? = some true := by
  obtain ⟨-, rfl⟩ := Option.ite_some_none_eq_some.mp h
  refine ⟨maskPos_length 0 m, fun i => (mem_maskPos 0 m i).trans ⟨?_, fun hi => ⟨i, (Nat.zero_add i).symm, hi⟩⟩⟩
  rintro ⟨j, rfl, hj⟩
  rwa [Nat.zero_add]

/-- the shape half of "grid-`isel` after normalisation selects as many elements as the indexer names": on
    face data, slicing to a sub-grid with `l.length` faces (`sub_node` / `sub_edge` whatever the selection
    touches) gives `n_face` that length, in the place `n_face` had.  That `l.length` is the number of entries
    of an integer list, or of `true` entries of a mask, is `normIdx_ints_length` / `normIdx_mask`. -/
theorem isel_norm_shape {T : Table} {s s' : State} {n : Nat} {idx : Idx} {l : List Nat} {cn ce : Nat}
    (_hn : normIdx n idx = some l) (hc : centred s.arr.dims = some .face)
    (h : step T s (.gridIsel ⟨cn, ce, l.length⟩) = some s') :
    s'.arr.dims = setLen s.arr.dims .face l.length := by
  obtain ⟨_, _, d, _, hcd, rfl⟩ := step_gridIsel h
  cases hc.symm.trans hcd
  rfl

/-- a mask CAST to integers is another selection: `n` entries (copies of elements 0 and 1) instead of the `true`
    positions — the regression witness of the seeded change C10f and of `Grid.isel(n_face=mask)` as it stood -/
theorem mask_cast_to_ints_is_wrong :
    normIdx 8 (.mask [false, false, false, false, true, true, true, true]) = some [4, 5, 6, 7] ∧
    normIdx 8 (maskAsInts [false, false, false, false, true, true, true, true]) = some [0, 0, 0, 0, 1, 1, 1, 1] := by
  decide +kernel

/-- for EVERY mask that is not all-`true`, the cast selects a different number of elements -/
theorem mask_cast_length_differs {n : Nat} {m : List Bool} {l l' : List Nat}
    (h : normIdx n (.mask m) = some l) (h' : normIdx n (maskAsInts m) = some l') (hf : false ∈ m) :
    l.length < l'.length := by
  rw [(normIdx_mask h).1, normIdx_ints_length h', List.length_map]
  exact count_true_lt hf

example : normIdx 6 (.ints [-1, 1, 1]) = some [5, 1, 1] := by decide +kernel
example : normIdx 6 (.slice none none (-1)) = some [5, 4, 3, 2, 1, 0] := by decide +kernel
example : normIdx 6 (.slice (some 1) (some (-1)) 2) = some [1, 3] := by decide +kernel
example : normIdx 6 (.slice (some 3) (some 3) 1) = some [] := by decide +kernel
example : normIdx 6 (.ints [6]) = none := by decide +kernel

/-- **"transpose then isel" = "isel then transpose"**: for every table with a re-attaching transpose
    path, every state satisfying the invariant, every layout `nd` of its dimensions and every sub-grid
    `c`, slicing the transposed array gives the transposed slice — same heap, same new grid, and the
    dimensions are `nd` with the grid dimension's length replaced (the element dimension need not be
    last, or anywhere in particular). -/
theorem isel_commutes_with_transpose {T : Table} (hT : (T .transpose).good = true) {s s1 s2 : State}
    {nd : Dims} {c : Counts} (hi : Inv s)
    (h1 : step T s (.transpose nd) = some s1) (h2 : step T s1 (.gridIsel c) = some s2) :
    ∃ d s3, centred s.arr.dims = some d ∧ step T s (.gridIsel c) = some s3 ∧
      step T s3 (.transpose (setLen nd d (c.get d))) = some s2 := by
  obtain ⟨g, r, hc, -⟩ := cur_of_inv hi
  obtain ⟨ds, hx, rfl⟩ := step_of_kind (k := .transpose) rfl h1
  obtain ⟨hperm, rfl⟩ := Option.ite_some_none_eq_some.mp hx
  rw [build_good hT (cur_eq_some.mp hc).1] at h2
  obtain ⟨_, _, d, _, hcd, rfl⟩ := step_gridIsel h2
  have hp := List.isPerm_iff.mp hperm
  have hcd' := centred_perm hp hcd
  -- `setLen` acts entry by entry, so it maps a permutation to a permutation
  have hperm2 : (setLen nd d (c.get d)).isPerm (setLen s.arr.dims d (c.get d)) = true :=
    List.isPerm_iff.mpr (hp.map _)
  refine ⟨d, ⟨s.heap ++ [⟨c, freshStore s.heap⟩],
    ⟨true, some s.heap.length, setLen s.arr.dims d (c.get d)⟩⟩, hcd', by simp only [step, hc, hcd'], ?_⟩
  simp only [step, stepX, Op.kind, xdims, hperm2, if_true]
  rw [build_good hT rfl]

/-! ## the converse: the other two paths break the invariant, and nothing repairs it -/

/-- ANY operation xarray builds as a plain `DataArray` loses the subclass and the grid -/
theorem plain_path_loses_grid {T : Table} {s s' : State} {op : Op} {k : XKind}
    (hk : op.kind = some k) (hT : T k = .plainCtor) (h : step T s op = some s') :
    s'.arr.isUx = false ∧ s'.arr.grid = none ∧ ¬ Inv s' := by
  obtain ⟨ds, -, rfl⟩ := step_of_kind hk h
  rw [hT, build_plainCtor]
  exact ⟨rfl, rfl, fun hi => by cases hi.1⟩

/-- ANY operation built by calling the class outside `_replace` yields a `UxDataArray` whose slot is
    `None` -/
theorem class_path_loses_grid {T : Table} {s s' : State} {op : Op} {k : XKind}
    (hk : op.kind = some k) (hT : T k = .classCtor) (h : step T s op = some s') :
    s'.arr.grid = none ∧ ¬ Inv s' := by
  obtain ⟨ds, -, rfl⟩ := step_of_kind hk h
  rw [hT]
  exact ⟨build_classCtor_grid _ _,
    fun ⟨_, _, _, hg, _⟩ => nomatch (build_classCtor_grid s.arr ds).symm.trans hg⟩

/-- once the array is a plain `DataArray`, every further xarray operation and copy leaves it one,
    under every table: a program that contains one plain-path step never satisfies the invariant again
    through xarray operations -/
theorem lost_stays_lost {T : Table} : ∀ (p : List Op) (s s' : State),
    (∀ op ∈ p, op.isX = true) → s.arr.isUx = false → run T s p = some s' → s'.arr.isUx = false :=
  run_preserves fun _ _ _ => step_not_ux

/-! ## witnesses: the code as it stands, and non-vacuity -/

/-- witness state: a face-centred array `(t: 3, n_face: 6)` on grid 0 of a two-grid heap -/
def w0c : State :=
  { heap := [⟨⟨8, 12, 6⟩, 0⟩, ⟨⟨12, 17, 6⟩, 1⟩],
    arr := ⟨true, some 0, [(.other 0, 3), (.face, 6)]⟩ }

def w0 : State :=
  { heap := [⟨⟨8, 12, 6⟩, 0⟩, ⟨⟨12, 17, 6⟩, 1⟩],
    arr := ⟨true, some 0, [(.other 0, 3), (.face, 6)]⟩ }

example : Inv w0 := attachedB_iff.mp (by decide +kernel)

/-- a "deep" copy that re-uses the original's grid OBJECT (what a `_copy` that looks at `data=` would do)
    fails the step specification -/
theorem deep_copy_same_object_violates_spec :
    specB w0c (Op.ofCopy .deepTrueData true) w0c w0c.arr.dims = false := by decide +kernel

/-- a result whose element dimension is named for one kind but has another kind's count (what a
    mis-keyed `remap_to` table produces) violates the step specification whenever the two counts differ -/
theorem mislabelled_remap_violates_spec :
    specB w0c (UxCall.remapNN 1 .edge).op ⟨w0c.heap, ⟨true, some 1, [(.other 0, 3), (.face, 17)]⟩⟩ [] = false := by
  decide +kernel

/-- `where` (and every other apply_ufunc-based method) returns a plain `DataArray` -/
theorem asis_where_drops_grid :
    ∃ s', step asIs w0 (.elem .whereOp) = some s' ∧ s'.arr.isUx = false ∧ s'.arr.grid = none :=
  ⟨_, rfl, rfl, rfl⟩

theorem asis_ufunc_drops_grid :
    ∃ s', step asIs w0 (.elem .ufunc) = some s' ∧ s'.arr.isUx = false ∧ s'.arr.grid = none :=
  ⟨_, rfl, rfl, rfl⟩

theorem asis_rolling_drops_grid :
    ∃ s', step asIs w0 (.along .rolling 0) = some s' ∧ s'.arr.isUx = false ∧ s'.arr.grid = none :=
  ⟨_, rfl, rfl, rfl⟩

/-- the full-strength program statement is false for the observed table -/
theorem asis_program_inv_false :
    ¬ (∀ (p : List Op) (s s' : State), Inv s → run asIs s p = some s' → Inv s') := by
  intro h
  have := h [.elem .arith, .elem .astype, .reduce [.other 0]] w0 _ (attachedB_iff.mp (by decide +kernel)) rfl
  exact absurd (attachedB_iff.mpr this) (by decide +kernel)

/-- positional slicing of a grid dimension through xarray's own path goes through `_replace`: the result
    keeps the UN-sliced grid, for every table.  AS IT STOOD this was every non-keyword form; with
    fixes/C10-positional-face-indexing-slices-grid.patch the forms that reach `UxDataArray.isel`
    (`uxda[..., faces]`, `isel(indexers=…)`) are the operation `gridIsel` for FACES (covered by
    `uxcall_preserves_inv`); it remains the behaviour of `sel` / `head` / `tail` / `thin` and of n_node /
    n_edge (no exact sub-grid exists for a set of nodes or edges). -/
theorem asis_positional_slice_stale_grid (T : Table) (hT : (T .indexGrid).good = true) :
    ∃ s', step T w0 (.index .face (.len 3)) = some s' ∧ s'.arr.grid = some 0 ∧ ¬ Inv s' := by
  have hb : build (T .indexGrid) w0.arr [(.other 0, 3), (.face, 3)] =
      ⟨true, some 0, [(.other 0, 3), (.face, 3)]⟩ := build_good hT rfl
  refine ⟨⟨w0.heap, ⟨true, some 0, [(.other 0, 3), (.face, 3)]⟩⟩, ?_, rfl, fun hi => ?_⟩
  · exact congrArg (fun a : Arr => some (State.mk w0.heap a)) hb
  · exact absurd (attachedB_iff.mpr hi) (by decide +kernel)

/-- AS IT STOOD for every centring (still the behaviour for edge-centred data):
    `get_dual` of a partial mesh: node-centred data keep their length but the dual has fewer faces -/
theorem asis_get_dual_partial :
    ∃ s', step asIs ⟨[⟨⟨12, 17, 6⟩, 0⟩], ⟨true, some 0, [(.node, 12)]⟩⟩ (.getDual false ⟨6, 7, 2⟩) = some s'
      ∧ ¬ Inv s' :=
  ⟨_, rfl, fun hi => absurd (attachedB_iff.mpr hi) (by decide +kernel)⟩

/-- the same partial mesh (with a leading dimension) under the repaired `get_dual`: 12 node values → the 2
    faces of the dual -/
theorem get_dual_repaired_witness :
    (step asIs ⟨[⟨⟨12, 17, 6⟩, 0⟩], ⟨true, some 0, [(.other 0, 2), (.node, 12)]⟩⟩ (.getDualR ⟨6, 7, 2⟩)).map (·.arr)
      = some ⟨true, some 1, [(.other 0, 2), (.face, 2)]⟩ := by decide +kernel

/-- the as-is deep copy on the witness: new grid object 2, same store 0 -/
theorem asis_deep_copy_witness :
    ∃ s', step asIs w0 (.copy true false) = some s' ∧ s'.arr.grid = some 2 ∧
      s'.heap[2]? = some ⟨⟨8, 12, 6⟩, 0⟩ ∧ specB w0 (.copy true false) s' w0.arr.dims = false :=
  ⟨_, rfl, rfl, rfl, by decide +kernel⟩

/-! non-vacuity: an eight-step program mixing xarray operations with uxarray's own, run under the
    observed table, satisfies every hypothesis of `program_inv_asis_partial` and ends attached to the
    remap destination; a deep copy with its own store meets the step specification. -/
def progW : List Op :=
  [.elem .arith, .index (.other 0) .drop, .copy false false, .gradient, .remap 1 .node,
   .concatNew 5 2, .transpose [(.node, 12), (.other 5, 2)], .gridIsel ⟨4, 4, 1⟩]

example : ∀ op ∈ progW, Scoped op = true ∧ safeAsIs op = true := by decide +kernel
example : (run asIs w0 progW).map (·.arr) =
    some ⟨true, some 2, [(.node, 4), (.other 5, 2)]⟩ := by decide +kernel
example : ∃ s', run asIs w0 progW = some s' ∧ Inv s' :=
  ⟨_, rfl, attachedB_iff.mp (by decide +kernel)⟩
example : ∃ s', step asIs w0 (.copy true true) = some s' ∧ specB w0 (.copy true true) s' w0.arr.dims = true :=
  ⟨_, rfl, by decide +kernel⟩
example : ∃ s', step asIs w0 (.getDual true ⟨0, 0, 0⟩) = some s' ∧ Inv s' :=
  ⟨_, rfl, attachedB_iff.mp (by decide +kernel)⟩
example : ∀ k, ((fun _ => Path.replace : Table) k).good = true := fun _ => rfl
example : (run asIs w0 [(UxCall.remapIDW 1 .edge).op, .elem .arith, .reduce [.other 0]]).map (·.arr) =
    some ⟨true, some 1, [(.edge, 17)]⟩ := by decide +kernel
example : ∃ s', step asIs w0 (Op.ofCopy .data true) = some s' ∧ s'.arr.grid = some 2 ∧
    specB w0 (Op.ofCopy .data true) s' w0.arr.dims = true := ⟨_, rfl, rfl, by decide +kernel⟩
example : ∃ s', run asIs w0 [.elem .arith, .transpose [(.face, 6), (.other 0, 3)], Op.ofCopy .deepTrueData true]
    = some s' ∧ s'.arr.grid = some 2 ∧ Inv s' := ⟨_, rfl, rfl, attachedB_iff.mp (by decide +kernel)⟩
/-- element dimension FIRST: `(n_face: 6, t: 3)` sliced to a 2-face sub-grid is `(n_face: 2, t: 3)` -/
example : (run asIs w0 [.transpose [(.face, 6), (.other 0, 3)], .gridIsel ⟨6, 7, 2⟩]).map (·.arr) =
    some ⟨true, some 2, [(.face, 2), (.other 0, 3)]⟩ := by decide +kernel
example : (run asIs w0 [.expandDims 4 true, .gridIsel ⟨6, 7, 2⟩]).map (·.arr) =
    some ⟨true, some 2, [(.other 0, 3), (.face, 2), (.other 4, 1)]⟩ := by decide +kernel
example : OpGoodS asIs (.remap 1 .node) ∧ OpGoodS asIs (.copy true true) ∧ OpGoodS asIs (.index .face .drop) :=
  ⟨⟨⟨rfl, fun _ h => by cases h⟩, by decide +kernel⟩, ⟨⟨rfl, fun _ h => by cases h⟩, by decide +kernel⟩,
   ⟨⟨rfl, fun k h => by cases h; rfl⟩, by decide +kernel⟩⟩

end UxVerif.C10
