/-
  C08 — the memoisation theorem: for every table passing `wfB`, a getter on a store satisfying
  `Inv` returns the reference value `fr v`, only adds entries and keeps `Inv` (`getV_sound`);
  `stepGrid_spec` lifts this to every operation of a well-formed model; `wfVar_congr`/`allSigs`
  make the table check for all signatures finite.
-/
import UxVerif.Model.Caches

namespace UxVerif.Caches

theorem Var.mem_all (v : Var) : v ∈ Var.all := by
  cases v <;> decide +kernel

theorem all_congr_mem {α : Type} {p q : α → Bool} {l : List α} (h : ∀ x ∈ l, p x = q x) :
    l.all p = l.all q := by
  induction l <;> simp_all

theorem any_congr_mem {α : Type} {p q : α → Bool} {l : List α} (h : ∀ x ∈ l, p x = q x) :
    l.any p = l.any q := by
  induction l <;> simp_all

/-- W1–W9 of `wfVar`, as propositions -/
structure WF (T : Table) (sig : Var → Bool) : Prop where
  own : ∀ v w, w ∈ (T.unitOf v).writes → T.unitOf w.var = T.unitOf v
  rank : ∀ v w, w ∈ (T.unitOf v).writes → T.rk w.var = T.rk v
  plain : ∀ v w, w ∈ (T.unitOf v).writes → w.force = false ∧ w.leak = false ∧ w.ranged = true ∧ w.drops = []
  side : ∀ v w, w ∈ (T.unitOf v).writes → w.withSide = T.sided w.var
  guards : ∀ v w, w ∈ (T.unitOf v).writes → ∀ c ∈ w.guard, condOwn T v c = true
  args : ∀ v w, w ∈ (T.unitOf v).writes → ∀ a ∈ w.args, argOK T v w a = true
  some : ∀ v, sig v = false → ∃ w ∈ (T.unitOf v).writes, applicable T sig v w = true
  reads : ∀ v, sig v = false → ∀ r ∈ (T.unitOf v).reads, sig r = true ∨ T.rk r < T.rk v

theorem all_comm {α β : Type} (l₁ : List α) (l₂ : List β) (p : α → β → Bool) :
    l₁.all (fun a => l₂.all (p a)) = l₂.all (fun b => l₁.all (fun a => p a b)) := by
  rw [Bool.eq_iff_iff]
  simp only [List.all_eq_true]
  exact ⟨fun h b hb a ha => h a ha b hb, fun h a ha b hb => h b hb a ha⟩

theorem all_or_left {α : Type} (l : List α) (c : Bool) (f : α → Bool) :
    l.all (fun x => c || f x) = (c || l.all f) := by
  cases c
  · simp only [Bool.false_or]
  · simp

/-! ## the reference recursion and its memo -/

section Reference
variable {T : Table} {sig : Var → Bool} {s n : Nat} {v : Var} {w : Write} {a : Arg}

theorem wf_of_wfB (h : wfB T sig = true) : WF T sig := by
  have hv v := List.all_eq_true.mp h v (Var.mem_all v)
  simp only [wfVar, Bool.and_eq_true, Bool.or_eq_true, List.all_eq_true, List.any_eq_true,
    beq_iff_eq, Bool.not_eq_true', List.isEmpty_iff, decide_eq_true_eq, and_assoc] at hv
  have hw v w (hm : w ∈ (T.unitOf v).writes) := (hv v).1 w hm
  have hs v (h0 : sig v = false) := (hv v).2.resolve_left (by simp [h0])
  exact
    { own := fun v w hm => let ⟨own, _⟩ := hw v w hm; own
      rank := fun v w hm => let ⟨_, rank, _⟩ := hw v w hm; rank
      plain := fun v w hm =>
        let ⟨_, _, force, leak, ranged, drops, _⟩ := hw v w hm; ⟨force, leak, ranged, drops⟩
      side := fun v w hm => let ⟨_, _, _, _, _, _, side, _⟩ := hw v w hm; side
      guards := fun v w hm => let ⟨_, _, _, _, _, _, _, guards, _⟩ := hw v w hm; guards
      args := fun v w hm => let ⟨_, _, _, _, _, _, _, _, args⟩ := hw v w hm; args
      some := fun v h0 => (hs v h0).1
      reads := fun v h0 => (hs v h0).2 }

theorem argOK_cases (hok : argOK T v w a = true) (hg : w.guard.all (staticCond T sig) = true) :
    (a.var ∈ (T.unitOf v).reads ∨ sig a.var = true) ∧
      ∀ y, a = .side y → (!sig y && T.sided y) = true := by
  cases a with
  | val x =>
    simp only [argOK, Bool.or_eq_true, List.contains_iff_mem] at hok
    refine ⟨hok.imp_right fun h => ?_, fun _ h => nomatch h⟩
    simpa [staticCond, Arg.var] using List.all_eq_true.mp hg _ h
  | side x =>
    simp only [argOK, Bool.and_eq_true, List.contains_iff_mem] at hok
    refine ⟨Or.inl hok.1, fun y h => ?_⟩
    cases h
    simpa [staticCond] using List.all_eq_true.mp hg _ hok.2

theorem WF.arg_shallow (wf : WF T sig) (hs : sig v = false) (hw : w ∈ (T.unitOf v).writes)
    (hg : w.guard.all (staticCond T sig) = true) (ha : a ∈ w.args) : sig a.var = true ∨ T.rk a.var < T.rk v :=
  (argOK_cases (wf.args v w hw a ha) hg).1.elim (wf.reads v hs a.var) Or.inl

theorem fresh_src (h : sig v = true) :
    fresh T sig s n v = .src s v := by
  cases n <;> simp [fresh, h]

theorem fresh_succ (h : sig v = false) :
    fresh T sig s (n + 1) v =
      match (T.unitOf v).writes.find? (applicable T sig v) with
      | none => .bad
      | some w => mkApp w.fn (w.args.map (fun a => fresh T sig s n a.var)) := by
  rw [fresh]; simp only [h, Bool.false_eq_true, ↓reduceIte]
  cases (T.unitOf v).writes.find? (applicable T sig v) <;> rfl

theorem applicable_iff :
    applicable T sig v w = true ↔ w.var = v ∧ w.guard.all (staticCond T sig) = true := by
  simp [applicable]

theorem find?_applicable (hf : (T.unitOf v).writes.find? (applicable T sig v) = some w) :
    w ∈ (T.unitOf v).writes ∧ w.var = v ∧ w.guard.all (staticCond T sig) = true :=
  ⟨List.mem_of_find?_eq_some hf, applicable_iff.mp (List.find?_some hf)⟩

theorem fresh_stable (s : Nat) (wf : WF T sig) :
    ∀ n m v, (sig v = true ∨ T.rk v < n) → (sig v = true ∨ T.rk v < m) →
      fresh T sig s n v = fresh T sig s m v := by
  intro n
  induction n with
  | zero =>
    intro m v h1 h2
    have h1 := h1.resolve_right (Nat.not_lt_zero _)
    rw [fresh_src h1, fresh_src h1]
  | succ n ih =>
    intro m v h1 h2
    cases hs : sig v with
    | true => rw [fresh_src hs, fresh_src hs]
    | false =>
      have h1 : T.rk v < n + 1 := h1.resolve_left (by simp [hs])
      have h2 : T.rk v < m := h2.resolve_left (by simp [hs])
      obtain ⟨m, rfl⟩ : ∃ m', m = m' + 1 := ⟨m - 1, by omega⟩
      rw [fresh_succ hs, fresh_succ hs]
      cases hf : (T.unitOf v).writes.find? (applicable T sig v) with
      | none => rfl
      | some w =>
        obtain ⟨hw, _, hg⟩ := find?_applicable hf
        simp only
        congr 1
        apply List.map_congr_left
        intro a ha
        have := wf.arg_shallow hs hw hg ha
        exact ih m a.var (this.imp_right (by omega)) (this.imp_right (by omega))

theorem fr_src (h : sig v = true) :
    fr T sig s v = .src s v := fresh_src h

theorem fr_eq (wf : WF T sig) (hs : sig v = false)
    (hf : (T.unitOf v).writes.find? (applicable T sig v) = some w) :
    fr T sig s v = mkApp w.fn (w.args.map (fun a => fr T sig s a.var)) := by
  obtain ⟨hw, _, hg⟩ := find?_applicable hf
  rw [fr, fresh_succ hs, hf]
  simp only
  congr 1
  apply List.map_congr_left
  intro a ha
  have := wf.arg_shallow hs hw hg ha
  exact fresh_stable s wf _ _ _ (this.imp_right id) (this.imp_right fun _ => Nat.lt_succ_self _)

end Reference

/-- `doWrite` stores the value itself as side table -/
def sideExp (T : Table) (sig : Var → Bool) (s : Nat) (v : Var) : Option Term :=
  if !sig v && T.sided v then some (fr T sig s v) else none

/-- `Inv.sound`; the write fold keeps it while `Inv.closed` is suspended -/
def SoundStore (T : Table) (sig : Var → Bool) (s : Nat) (st : Store) : Prop :=
  ∀ v e, st v = some e → e.val = fr T sig s v ∧ e.ranged = true ∧ e.side = sideExp T sig s v

/-- `closed`: a unit is populated all-or-nothing, hence `own_presence`, `guards_static` -/
structure Inv (T : Table) (sig : Var → Bool) (s : Nat) (st : Store) : Prop where
  srcp : ∀ v, sig v = true → (st v).isSome = true
  sound : ∀ v e, st v = some e → e.val = fr T sig s v ∧ e.ranged = true ∧ e.side = sideExp T sig s v
  closed : ∀ v, (st v).isSome = true → sig v = false → ∀ w ∈ (T.unitOf v).writes,
      w.guard.all (staticCond T sig) = true → (st w.var).isSome = true

/-- the store only grows, and what is there stays as it is -/
def Le (a b : Store) : Prop := ∀ v e, a v = some e → b v = some e

theorem Le.refl (a : Store) : Le a a := fun _ _ h => h
theorem Le.trans {a b c : Store} (h1 : Le a b) (h2 : Le b c) : Le a c := fun v e h => h2 v e (h1 v e h)

theorem Le.none {a b : Store} (h : Le a b) {v : Var} (hv : b v = none) : a v = none := by
  cases ha : a v with
  | none => rfl
  | some e => rw [h v e ha] at hv; cases hv

theorem Le.isSome {a b : Store} (h : Le a b) {v : Var} (hv : (a v).isSome = true) : (b v).isSome = true := by
  obtain ⟨e, he⟩ := Option.isSome_iff_exists.mp hv
  rw [h v e he]; rfl

section Store
variable {T : Table} {sig : Var → Bool} {s : Nat} {st : Store}

theorem Inv.unsupplied (h : Inv T sig s st) {v : Var} (hv : st v = none) : sig v = false := by
  cases hs : sig v with
  | false => rfl
  | true => have := h.srcp v hs; simp [hv] at this

theorem Inv.wrapAll_eq (h : Inv T sig s st) : wrapAll st = st := by
  funext v
  unfold wrapAll
  split
  · cases hv : st v with
    | none => rfl
    | some e =>
      obtain ⟨val, side, ranged, chunked⟩ := e
      have : ranged = true := (h.sound v _ hv).2.1
      subst this
      rfl
  · rfl

theorem Inv.obs_eq {v : Var} {e : Entry} (h : Inv T sig s st) (hv : st v = some e) :
    e.obs = fr T sig s v := by
  have := h.sound v e hv
  simp [Entry.obs, this.1, this.2.1]

theorem arg_agree (hsound : SoundStore T sig s st) {a : Arg} (hp : (st a.var).isSome = true) (hside : ∀ y, a = .side y → (!sig y && T.sided y) = true) :
    argVal st a = fr T sig s a.var := by
  obtain ⟨e, he⟩ := Option.isSome_iff_exists.mp hp
  have hs := hsound _ e he
  cases a with
  | val y => simp only [Arg.var] at he; simp only [argVal, he, hs.1]
  | side y =>
    simp only [Arg.var] at he
    simp only [argVal, he, hs.2.2, sideExp, hside y rfl, ↓reduceIte, Arg.var]

end Store

/-- `getV` = `finish` ∘ (`populate` if absent) -/
def finish (T : Table) (v : Var) (σ1 : St) : St × Term :=
  let σ2 : St := if T.wrapGet v then (wrapAll σ1.1, σ1.2) else σ1
  (σ2, obsOf (σ2.1 v))

def populate (T : Table) (n : Nat) (v : Var) (σ : St) : St :=
  let σr := (getMany T n (T.unitOf v).reads σ).1
  let σw := (T.unitOf v).writes.foldl (doWrite σr.1) σr
  if T.wrapPop v then (wrapAll σw.1, σw.2) else σw

theorem getMany_fst (T : Table) (n : Nat) : ∀ (vs : List Var) (σ : St),
    (getMany T n vs σ).1 = vs.foldl (fun s r => (getV T n r s).1) σ
  | [], _ => rfl
  | _ :: vs, _ => getMany_fst T n vs _

section Unfold
variable {T : Table} {n : Nat} {v : Var} {σ : St}

theorem getV_present {e : Entry} (h : σ.1 v = some e) : getV T n v σ = finish T v σ := by
  rw [getV.eq_def]; simp [h, finish]

theorem getV_absent_zero {T : Table} {v : Var} {σ : St} (h : σ.1 v = none) :
    getV T 0 v σ = finish T v σ := by
  rw [getV.eq_def]; simp [h, finish]

theorem getV_absent_succ (h : σ.1 v = none) :
    getV T (n + 1) v σ = finish T v (populate T n v σ) := by
  rw [getV.eq_def]; simp [h, finish, populate, getMany_fst]

theorem finish_inv {sig : Var → Bool} {s : Nat} (h : Inv T sig s σ.1) :
    finish T v σ = (σ, obsOf (σ.1 v)) := by
  unfold finish
  split
  · simp [Inv.wrapAll_eq h]
  · rfl

end Unfold

theorem Store.erase_nil (st : Store) : st.erase [] = st := by
  funext x; simp [Store.erase]

section Write
variable {st0 : Store} {σ : St} {w : Write}

theorem doWrite_globals (hl : w.leak = false) : (doWrite st0 σ w).2 = σ.2 := by
  unfold doWrite
  split <;> simp [hl]

theorem doWrite_other {x : Var} (hx : x ≠ w.var) (hd : w.drops = []) :
    (doWrite st0 σ w).1 x = σ.1 x := by
  unfold doWrite
  split
  · simp [Store.set, hx, hd, Store.erase_nil]
  · rfl

theorem doWrite_at (hf : w.force = false) :
    (doWrite st0 σ w).1 w.var =
      if w.guard.all (evalCond st0) && (σ.1 w.var).isNone then
        some { val := mkApp w.fn (w.args.map (argVal σ.1)),
               side := if w.withSide then some (mkApp w.fn (w.args.map (argVal σ.1))) else none,
               ranged := w.ranged, chunked := false }
      else σ.1 w.var := by
  unfold doWrite
  simp only [hf, Bool.false_or]
  split <;> simp [Store.set]

theorem doWrite_le (hf : w.force = false) (hd : w.drops = []) : Le σ.1 (doWrite st0 σ w).1 := by
  intro v e hv
  by_cases hvw : v = w.var
  · subst hvw
    rw [doWrite_at hf, if_neg (by simp [hv])]
    exact hv
  · rw [doWrite_other hvw hd]
    exact hv

end Write

theorem doWrite_globals_fold {st0 : Store} (ws : List Write) (hl : ∀ w ∈ ws, w.leak = false) :
    ∀ σ : St, (ws.foldl (doWrite st0) σ).2 = σ.2 := by
  induction ws with
  | nil => intro σ; rfl
  | cons w ws ih =>
    intro σ
    rw [List.foldl_cons, ih (fun w' hw' => hl w' (List.mem_cons_of_mem _ hw'))]
    exact doWrite_globals (hl w (List.mem_cons_self ..))

structure Post (T : Table) (sig : Var → Bool) (s : Nat) (v : Var) (σ : St) (r : St × Term) : Prop where
  inv : Inv T sig s r.1.1
  le : Le σ.1 r.1.1
  gl : r.1.2 = σ.2
  pres : (r.1.1 v).isSome = true
  val : r.2 = fr T sig s v
  -- `frame`, `same`: only to show, in the induction, that a unit's reads leave `v` absent
  frame : ∀ x, T.rk v < T.rk x → r.1.1 x = σ.1 x
  same : (σ.1 v).isSome = true → r.1.1 = σ.1

structure ManyPost (T : Table) (sig : Var → Bool) (s : Nat) (vs : List Var) (σ : St)
    (r : St × List Term) : Prop where
  inv : Inv T sig s r.1.1
  le : Le σ.1 r.1.1
  gl : r.1.2 = σ.2
  pres : ∀ v ∈ vs, (r.1.1 v).isSome = true
  vals : r.2 = vs.map (fr T sig s)
  frame : ∀ k, (∀ v ∈ vs, sig v = true ∨ T.rk v < k) → ∀ x, k ≤ T.rk x → r.1.1 x = σ.1 x

section Getter
variable {T : Table} {sig : Var → Bool} {s : Nat}

theorem post_present {n : Nat} {v : Var} {σ : St} {e : Entry} (hinv : Inv T sig s σ.1)
    (he : σ.1 v = some e) : Post T sig s v σ (getV T n v σ) := by
  rw [getV_present he, finish_inv hinv]
  exact ⟨hinv, Le.refl _, rfl, by simp [he], he ▸ hinv.obs_eq he, fun _ _ => rfl, fun _ => rfl⟩

theorem getMany_post (n : Nat)
    (H : ∀ v σ, Inv T sig s σ.1 → (sig v = true ∨ T.rk v < n) → Post T sig s v σ (getV T n v σ)) :
    ∀ (vs : List Var) (σ : St), Inv T sig s σ.1 → (∀ v ∈ vs, sig v = true ∨ T.rk v < n) →
      ManyPost T sig s vs σ (getMany T n vs σ) := by
  intro vs
  induction vs with
  | nil => intro σ hinv _; exact ⟨hinv, Le.refl _, rfl, by simp, rfl, fun _ _ _ _ => rfl⟩
  | cons v vs ih =>
    intro σ hinv hf
    have P := H v σ hinv (hf v (List.mem_cons_self ..))
    have I := ih (getV T n v σ).1 P.inv (fun x hx => hf x (List.mem_cons_of_mem _ hx))
    refine ⟨I.inv, Le.trans P.le I.le, I.gl.trans P.gl, ?_, by rw [getMany, I.vals, P.val]; rfl, ?_⟩
    · intro x hx
      rcases List.mem_cons.mp hx with rfl | h
      · exact Le.isSome I.le P.pres
      · exact I.pres x h
    · intro k hk x hx
      refine (I.frame k (fun y hy => hk y (List.mem_cons_of_mem _ hy)) x hx).trans ?_
      rcases hk v (List.mem_cons_self ..) with h | h
      · rw [P.same (hinv.srcp v h)]
      · exact P.frame x (by omega)

/-- `first`: for a variable still absent the reference's branch is among `post`, so the first write
    that fires for it is that branch -/
structure WInv (T : Table) (sig : Var → Bool) (s : Nat) (str : St) (ws post : List Write) (σp : St) :
    Prop where
  sound : SoundStore T sig s σp.1
  le : Le str.1 σp.1
  gl : σp.2 = str.2
  only : ∀ x, (∀ w ∈ ws, w.var ≠ x) → σp.1 x = str.1 x
  first : ∀ x, σp.1 x = none → ws.find? (applicable T sig x) = post.find? (applicable T sig x)

theorem own_presence (wf : WF T sig) {v x : Var} (hs : sig v = false) {st : Store}
    (hinv : Inv T sig s st) (hv : st v = none) (hx : T.unitOf x = T.unitOf v) :
    (st x).isSome = sig x := by
  cases hsx : sig x with
  | true => exact hinv.srcp x hsx
  | false =>
    cases hp : (st x).isSome with
    | false => rfl
    | true =>
      obtain ⟨w, hw, happ⟩ := wf.some v hs
      obtain ⟨hwv, hg⟩ := applicable_iff.mp happ
      have := hinv.closed x hp hsx w (hx ▸ hw) hg
      rw [hwv, hv] at this
      exact absurd this (by simp)

theorem guards_static (wf : WF T sig) {v : Var} (hs : sig v = false) {st : Store}
    (hinv : Inv T sig s st) (hv : st v = none)
    (hreads : ∀ r ∈ (T.unitOf v).reads, (st r).isSome = true)
    {w : Write} (hw : w ∈ (T.unitOf v).writes) :
    w.guard.all (evalCond st) = w.guard.all (staticCond T sig) := by
  apply all_congr_mem
  intro c hc
  have hown := wf.guards v w hw c hc
  cases c with
  | absent x | present x =>
    have := own_presence wf hs hinv hv (beq_iff_eq.mp hown)
    simp [evalCond, staticCond, ← this]
  | hasSide x | noSide x =>
    obtain ⟨e, hx⟩ := Option.isSome_iff_exists.mp (hreads x (List.contains_iff_mem.mp hown))
    simp only [evalCond, staticCond, hx, (hinv.sound x e hx).2.2, sideExp]
    cases sig x <;> cases T.sided x <;> rfl

theorem writes_fold (wf : WF T sig) {v : Var} (hs : sig v = false) {σr : St}
    (hinv : Inv T sig s σr.1) (hv : σr.1 v = none)
    (hreads : ∀ r ∈ (T.unitOf v).reads, (σr.1 r).isSome = true) :
    ∀ (post : List Write) (σp : St), (∀ w ∈ post, w ∈ (T.unitOf v).writes) →
    WInv T sig s σr (T.unitOf v).writes post σp →
    WInv T sig s σr (T.unitOf v).writes [] (post.foldl (doWrite σr.1) σp)
  | [], _, _, P => P
  | w :: post, σp, hsub, P => by
    refine writes_fold wf hs hinv hv hreads post _ (fun w' h => hsub w' (List.mem_cons_of_mem _ h)) ?_
    have hw := hsub w List.mem_cons_self
    obtain ⟨hf, hl, hrg, hd⟩ := wf.plain v w hw
    have hle : Le σp.1 (doWrite σr.1 σp w).1 := doWrite_le hf hd
    have hat := doWrite_at (st0 := σr.1) (σ := σp) hf
    rw [guards_static wf hs hinv hv hreads hw] at hat
    refine ⟨?_, Le.trans P.le hle, (doWrite_globals hl).trans P.gl, ?_, ?_⟩
    · intro y e he
      by_cases hyw : y = w.var
      · subst hyw
        rw [hat] at he
        split at he
        · -- `w` stores: it is the branch the reference recursion takes for `w.var`
          rename_i hc
          simp only [Bool.and_eq_true, Option.isNone_iff_eq_none] at hc
          obtain ⟨hg, habs⟩ := hc
          have hsx := hinv.unsupplied (P.le.none habs)
          have hfind : (T.unitOf w.var).writes.find? (applicable T sig w.var) = some w := by
            rw [wf.own v w hw, P.first _ habs]
            exact List.find?_cons_of_pos (applicable_iff.mpr ⟨rfl, hg⟩)
          have hval : mkApp w.fn (w.args.map (argVal σp.1)) = fr T sig s w.var := by
            rw [fr_eq wf hsx hfind]
            congr 1
            apply List.map_congr_left
            intro a ha
            obtain ⟨hin, hside⟩ := argOK_cases (wf.args v w hw a ha) hg
            refine arg_agree P.sound (Le.isSome P.le ?_) hside
            exact hin.elim (hreads _) (hinv.srcp _)
          cases he
          exact ⟨hval, hrg, by simp [sideExp, hsx, wf.side v w hw, hval]⟩
        · exact P.sound _ e he
      · rw [doWrite_other hyw hd] at he
        exact P.sound y e he
    · intro x hx
      rw [doWrite_other (fun h => hx w hw h.symm) hd]
      exact P.only x hx
    · intro x hx
      have hpx := hle.none hx
      rw [P.first x hpx, List.find?_cons_of_neg]
      -- had `w` been that branch for `x`, it would have stored `x` just now
      intro happ
      obtain ⟨rfl, hg⟩ := applicable_iff.mp happ
      simp [hat, hg, hpx] at hx

theorem getV_sound (s : Nat) (wf : WF T sig) :
    ∀ n v (σ : St), Inv T sig s σ.1 → (sig v = true ∨ T.rk v < n) →
      Post T sig s v σ (getV T n v σ) := by
  intro n
  induction n with
  | zero =>
    intro v σ hinv hfuel
    obtain ⟨e, he⟩ := Option.isSome_iff_exists.mp
      (hinv.srcp v (hfuel.resolve_right (Nat.not_lt_zero _)))
    exact post_present hinv he
  | succ n ih =>
    intro v σ hinv hfuel
    cases he : σ.1 v with
    | some e => exact post_present hinv he
    | none =>
      have hs := hinv.unsupplied he
      have hrk : T.rk v < n + 1 := hfuel.resolve_left (by simp [hs])
      rw [getV_absent_succ he]
      have R := getMany_post n ih (T.unitOf v).reads σ hinv
        (fun r hr => (wf.reads v hs r hr).imp_right (by omega))
      have Rframe := R.frame (T.rk v) (wf.reads v hs)
      obtain ⟨Rinv, Rle, Rgl, Rpres, -, -⟩ := R
      generalize hσr : (getMany T n (T.unitOf v).reads σ).1 = σr at Rinv Rle Rgl Rpres Rframe
      have hvr : σr.1 v = none := by rw [Rframe v (Nat.le_refl _)]; exact he
      have W := writes_fold wf hs Rinv hvr Rpres (T.unitOf v).writes σr (fun _ h => h)
        ⟨Rinv.sound, Le.refl _, rfl, fun _ _ => rfl, fun _ _ => rfl⟩
      generalize hσw : (T.unitOf v).writes.foldl (doWrite σr.1) σr = σw at W
      -- every write the reference lets pass has stored its variable
      have hdone : ∀ w ∈ (T.unitOf v).writes, w.guard.all (staticCond T sig) = true →
          (σw.1 w.var).isSome = true := by
        intro w hw hg
        cases h : σw.1 w.var with
        | some _ => rfl
        | none =>
          exact absurd (applicable_iff.mpr ⟨rfl, hg⟩) (List.find?_eq_none.mp (W.first _ h) w hw)
      -- `closed`: this unit by the above, the others are untouched
      have Winv : Inv T sig s σw.1 := by
        refine ⟨fun y hy => Le.isSome W.le (Rinv.srcp y hy), W.sound, ?_⟩
        intro y hy hsy w' hw' hg'
        by_cases hu : T.unitOf y = T.unitOf v
        · exact hdone w' (hu ▸ hw') hg'
        · rw [W.only y (fun w hw hwy => hu (hwy ▸ wf.own v w hw))] at hy
          exact Le.isSome W.le (Rinv.closed y hy hsy w' hw' hg')
      have hpop : populate T n v σ = σw := by
        unfold populate
        simp only [hσr, hσw]
        split
        · rw [Inv.wrapAll_eq Winv]
        · rfl
      rw [hpop, finish_inv Winv]
      obtain ⟨w0, hw0, happ0⟩ := wf.some v hs
      obtain ⟨hwv, hg0⟩ := applicable_iff.mp happ0
      have hpv : (σw.1 v).isSome = true := hwv ▸ hdone w0 hw0 hg0
      obtain ⟨e', hev⟩ := Option.isSome_iff_exists.mp hpv
      refine ⟨Winv, Le.trans Rle W.le, W.gl.trans Rgl, hpv, hev ▸ Winv.obs_eq hev, ?_, ?_⟩
      · intro x hx
        rw [W.only x (fun w hw hwx => by have := wf.rank v w hw; rw [hwx] at this; omega),
          Rframe x (by omega)]
      · intro hp; simp [he] at hp

end Getter

/-! ## one operation on one grid -/

/-- a cache may be reused only for a request it would have computed the same object for -/
def SoundPolicy (P : CachePolicy) : Prop :=
  ∀ k k', P.keyEq (P.keyStored k) k' = true → P.fn k = P.fn k' ∧ P.reads k = P.reads k'

theorem soundPolicy_of_eq {P : CachePolicy} (h1 : ∀ a b, P.keyEq a b = (a == b))
    (h2 : ∀ k, P.keyStored k = k) : SoundPolicy P := by
  intro k k' h
  rw [h1, h2, beq_iff_eq] at h
  subst h
  exact ⟨rfl, rfl⟩

def peekOK (T : Table) (sig : Var → Bool) (reads : List Var) (p : Peek) : Bool :=
  sig p.var ||
    (p.args.all (fun a => reads.contains a || sig a) &&
      match (T.unitOf p.var).writes.find? (applicable T sig p.var) with
      | some w => w.fn == p.fn && w.args == p.args.map Arg.val
      | none => false)

def methodOK (T : Table) (sig : Var → Bool) (md : Method) : Bool :=
  md.forced.isEmpty && md.numpyOnly.isEmpty && md.peek.all (peekOK T sig md.reads)

/-- conditions on a model for a source signature (the repaired library meets them) -/
structure MWF (M : Model) (sig : Var → Bool) : Prop where
  wf : WF (M.table sig) sig
  fuel : ∀ v, (M.table sig).rk v < FUEL
  meth : ∀ m, methodOK (M.table sig) sig (M.method m) = true
  pol : ∀ c, SoundPolicy (M.cache c)
  fresh_guard : ∀ c, (M.cache c).staleGuard = false
  noSide : M.openSide = false

def cacheRef (M : Model) (sig : Var → Bool) (s : Nat) (c : CacheId) (k : Key) : Term :=
  mkApp ((M.cache c).fn k) (((M.cache c).reads k).map (fr (M.table sig) sig s))

structure GInv (M : Model) (g : Grid) : Prop where
  inv : Inv (M.table g.sigF) g.sigF g.sid g.st
  cache : ∀ c ks t, (ks, t) ∈ g.caches c →
      ∃ k, ks = (M.cache c).keyStored k ∧ t = cacheRef M g.sigF g.sid c k

/-- the reference result of every value operation, straight from the reference recursion -/
def spec (M : Model) (sig : Var → Bool) (s : Nat) : Op → Res
  | .get v => .val (fr (M.table sig) sig s v)
  | .method m =>
      .val (mkApp (M.method m).fn (((M.method m).reads.map (fr (M.table sig) sig s)) ++
        (M.method m).peek.map (fun p => fr (M.table sig) sig s p.var)))
  | .cached c k _ _ => .val (handback (cacheRef M sig s c k) (guardTerm (M.cache c) s k))
  | .export_ => .unit
  | .inventory => .unit
  | .chunk => .unit

def Op.isValue : Op → Bool
  | .export_ | .inventory => false
  | _ => true

theorem chunk_inv {T : Table} {sig : Var → Bool} {s : Nat} {st : Store} (h : Inv T sig s st) :
    Inv T sig s (chunkStore st) := by
  have hsome : ∀ v, ((chunkStore st) v).isSome = (st v).isSome := by
    intro v; unfold chunkStore; split <;> cases st v <;> rfl
  refine ⟨fun v hv => by rw [hsome]; exact h.srcp v hv, ?_, ?_⟩
  · intro v e he
    unfold chunkStore at he
    split at he
    · obtain ⟨e0, hv, rfl⟩ := Option.map_eq_some_iff.mp he
      exact h.sound v e0 hv
    · exact h.sound v e he
  · intro v hv hs w hw hg
    rw [hsome] at hv ⊢
    exact h.closed v hv hs w hw hg

theorem mem_exportOf {st : Store} {x : Var × Term} :
    x ∈ exportOf st ↔ x.1.inDs = true ∧ ∃ e, st x.1 = some e ∧ x.2 = e.obs := by
  obtain ⟨v, t⟩ := x
  simp only [exportOf, List.mem_filterMap]
  constructor
  · rintro ⟨v', -, hv⟩
    split at hv
    · obtain ⟨e, he, h⟩ := Option.map_eq_some_iff.mp hv
      cases h
      exact ⟨‹_›, e, he, rfl⟩
    · cases hv
  · rintro ⟨hds, e, he, rfl⟩
    exact ⟨v, Var.mem_all v, by simp [hds, he]⟩

theorem Grid.sigF_congr {g g' : Grid} (h : g'.sig = g.sig) : g'.sigF = g.sigF := by
  unfold Grid.sigF; rw [h]

theorem sigF_openGrid (M : Model) (gl : Globals) (sig : List Var) (sid : Nat) :
    (openGrid M gl sig sid).sigF = sigOf sig := rfl

theorem openGrid_isSome (M : Model) (gl : Globals) (sig : List Var) (sid : Nat) (v : Var) :
    ((openGrid M gl sig sid).st v).isSome = sigOf sig v := by
  simp only [openGrid, sigOf]
  split <;> simp_all

theorem open_inv {M : Model} (sig : List Var) (sid : Nat) (gl : Globals) (hside : M.openSide = false) :
    GInv M (openGrid M gl sig sid) := by
  have hinv : Inv (M.table (sigOf sig)) (sigOf sig) sid (openGrid M gl sig sid).st := by
    refine ⟨fun v hv => (openGrid_isSome M gl sig sid v).trans hv, ?_, ?_⟩
    · intro v e he
      simp only [openGrid] at he
      split at he
      · have hs : sigOf sig v = true := ‹_›
        cases he
        exact ⟨(fr_src hs).symm, rfl, by simp [sideExp, hs, hside]⟩
      · cases he
    · intro v hv hs
      rw [openGrid_isSome, hs] at hv
      cases hv
  exact ⟨hinv, fun c ks t h => by simp [openGrid] at h⟩

theorem peek_sound {T : Table} {sig : Var → Bool} {s : Nat} (wf : WF T sig) {st : Store}
    (h : Inv T sig s st) {reads : List Var} (hreads : ∀ r ∈ reads, (st r).isSome = true)
    {p : Peek} (hok : peekOK T sig reads p = true) : peekVal st p = fr T sig s p.var := by
  unfold peekVal
  cases hv : st p.var with
  | some e => exact h.obs_eq hv
  | none =>
    have hs := h.unsupplied hv
    simp only [peekOK, hs, Bool.false_or, Bool.and_eq_true] at hok
    cases hf : (T.unitOf p.var).writes.find? (applicable T sig p.var) with
    | none => simp [hf] at hok
    | some w =>
      simp only [hf, Bool.and_eq_true, beq_iff_eq] at hok
      simp only
      rw [fr_eq wf hs hf, hok.2.1, hok.2.2, List.map_map]
      congr 1
      apply List.map_congr_left
      intro a ha
      have hp : (st a).isSome = true := by
        have := List.all_eq_true.mp hok.1 a ha
        simp only [Bool.or_eq_true, List.contains_iff_mem] at this
        exact this.elim (hreads a) (h.srcp a)
      exact arg_agree h.sound (a := .val a) hp (fun _ h => nomatch h)

theorem stepGrid_sig_sid (M : Model) (g : Grid) (gl : Globals) (o : Op) :
    (stepGrid M g gl o).1.sig = g.sig ∧ (stepGrid M g gl o).1.sid = g.sid := by
  cases o with
  | method m => simp only [stepGrid]; split <;> exact ⟨rfl, rfl⟩
  | cached c k force store =>
    simp only [stepGrid]
    split
    · split <;> exact ⟨rfl, rfl⟩
    · exact ⟨rfl, rfl⟩
  | _ => exact ⟨rfl, rfl⟩

theorem stepGrid_spec {M : Model} {g : Grid} (hm : MWF M g.sigF) (hg : GInv M g) (gl : Globals)
    (o : Op) :
    GInv M (stepGrid M g gl o).1 ∧ (stepGrid M g gl o).2.1 = gl ∧
    (o.isValue = true → (stepGrid M g gl o).2.2 = spec M g.sigF g.sid o) := by
  have many := fun vs σ hinv => getMany_post FUEL (getV_sound g.sid hm.wf FUEL) vs σ hinv
    (fun v _ => Or.inr (hm.fuel v))
  cases o with
  | get v =>
    have P := getV_sound g.sid hm.wf FUEL v (g.st, gl) hg.inv (Or.inr (hm.fuel v))
    exact ⟨⟨P.inv, hg.cache⟩, P.gl, fun _ => by simp only [stepGrid, spec, P.val]⟩
  | method m =>
    have hmeth := hm.meth m
    simp only [methodOK, Bool.and_eq_true, List.isEmpty_iff] at hmeth
    obtain ⟨⟨hforced, hnumpy⟩, hpeek⟩ := hmeth
    have G0 := many ((M.method m).whenPresent.flatMap (fun p => if (g.st p.1).isSome then p.2 else []))
      (g.st, gl) hg.inv
    have G := many (M.method m).reads _ G0.inv
    simp only [stepGrid, hnumpy, hforced, anyChunked, List.any_nil, List.foldl_nil,
      Bool.false_eq_true, ↓reduceIte]
    refine ⟨⟨G.inv, hg.cache⟩, G.gl.trans G0.gl, fun _ => ?_⟩
    simp only [spec, G.vals]
    congr 3
    apply List.map_congr_left
    intro p hp
    exact peek_sound hm.wf G.inv G.pres (List.all_eq_true.mp hpeek p hp)
  | cached c k force store =>
    simp only [stepGrid]
    split
    · -- served from an existing slot
      rename_i e hhit
      rw [if_neg (by simp [hm.fresh_guard c])]
      refine ⟨⟨hg.inv, hg.cache⟩, rfl, fun _ => ?_⟩
      split at hhit
      · cases hhit
      · obtain ⟨k0, hk0, ht⟩ := hg.cache c e.1 e.2 (List.mem_of_find?_eq_some hhit)
        have hk := List.find?_some hhit
        rw [hk0] at hk
        have := hm.pol c k0 k hk
        rw [spec, ht, cacheRef, cacheRef, this.1, this.2]
    · -- built
      have G := many ((M.cache c).reads k) (g.st, gl) hg.inv
      refine ⟨⟨G.inv, ?_⟩, G.gl, fun _ => by simp only [spec, cacheRef, G.vals]⟩
      intro c' ks t hct
      simp only at hct
      split at hct
      · simp only at hct
        split at hct
        · subst c'
          rcases List.mem_cons.mp hct with h | h
          · cases h
            exact ⟨k, rfl, by rw [G.vals]; rfl⟩
          · exact hg.cache c ks t (List.mem_filter.mp h).1
        · exact hg.cache c' ks t hct
      · exact hg.cache c' ks t hct
  | export_ => exact ⟨hg, rfl, nofun⟩
  | inventory => exact ⟨hg, rfl, nofun⟩
  | chunk => exact ⟨⟨chunk_inv hg.inv, hg.cache⟩, rfl, fun _ => rfl⟩

/-! ## the table check is finite in the signature -/

def Cond.var : Cond → Var
  | .absent v | .present v | .hasSide v | .noSide v => v

/-- the variables whose supplied-bit `wfVar T · v` looks at -/
def sigDeps (T : Table) (v : Var) : List Var :=
  v :: (T.unitOf v).reads ++ (T.unitOf v).writes.flatMap (fun w => w.guard.map Cond.var)

theorem wfVar_congr {T : Table} {sig sig' : Var → Bool} {v : Var}
    (h : ∀ x ∈ sigDeps T v, sig x = sig' x) : wfVar T sig v = wfVar T sig' v := by
  have happ : ∀ w ∈ (T.unitOf v).writes, applicable T sig v w = applicable T sig' v w := by
    intro w hw
    unfold applicable
    congr 1
    apply all_congr_mem
    intro c hc
    have hcv := h c.var (List.mem_cons_of_mem _ (List.mem_append_right _
      (List.mem_flatMap.mpr ⟨w, hw, List.mem_map_of_mem hc⟩)))
    cases c <;> simp only [staticCond, Cond.var] at hcv ⊢ <;> rw [hcv]
  have hreads : ∀ r ∈ (T.unitOf v).reads,
      (sig r || decide (T.rk r < T.rk v)) = (sig' r || decide (T.rk r < T.rk v)) :=
    fun r hr => by rw [h r (List.mem_cons_of_mem _ (List.mem_append_left _ hr))]
  unfold wfVar
  rw [h v List.mem_cons_self, any_congr_mem happ, all_congr_mem hreads]

/-- `p` of every signature on the listed variables (`f` elsewhere) -/
def allSigs (p : (Var → Bool) → Bool) : List Var → (Var → Bool) → Bool
  | [], f => p f
  | x :: xs, f => allSigs p xs (fun y => if y = x then false else f y)
      && allSigs p xs (fun y => if y = x then true else f y)

theorem exists_of_allSigs {p : (Var → Bool) → Bool} (sig : Var → Bool) :
    ∀ (vs : List Var) (f : Var → Bool), allSigs p vs f = true →
      ∃ g, (∀ x ∈ vs, g x = sig x) ∧ (∀ x, x ∉ vs → g x = f x) ∧ p g = true
  | [], f, h => ⟨f, by simp, fun _ _ => rfl, h⟩
  | x :: xs, f, h => by
    rw [allSigs, Bool.and_eq_true] at h
    obtain ⟨g, hin, hout, hp⟩ := exists_of_allSigs sig xs (fun y => if y = x then sig x else f y)
      (by cases sig x; exact h.1; exact h.2)
    refine ⟨g, fun y hy => ?_, fun y hy => ?_, hp⟩
    · by_cases hyx : y ∈ xs
      · exact hin y hyx
      · have hy : y = x := (List.mem_cons.mp hy).resolve_right hyx
        rw [hout y hyx, if_pos hy, hy]
    · rw [List.mem_cons, not_or] at hy
      rw [hout y hy.2, if_neg hy.1]

end UxVerif.Caches
