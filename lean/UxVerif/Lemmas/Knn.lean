/-
  Lemmas about `UxVerif.Knn` used by C11 and C12: the insertion sort is a sorted permutation
  (`sortBy_perm`, `sortBy_sorted`), what `bruteKnn` returns (`bruteKnn_*`), uniqueness of a
  k-nearest answer (`eq_of_sorted_minimal`), re-keying, `TreeObj.setSlot` (C11 Part C).
-/
import Batteries.Data.List.Perm
import Mathlib.Order.Defs.LinearOrder
import UxVerif.Model.Knn

namespace UxVerif.Knn

variable {K : Type}

/-- the comparison is total -/
def Total (le : K → K → Bool) : Prop := ∀ a b, le a b = true ∨ le b a = true
/-- the comparison is transitive -/
def Trans (le : K → K → Bool) : Prop := ∀ a b c, le a b = true → le b c = true → le a c = true

theorem Total.refl {le : K → K → Bool} (htot : Total le) (a : K) : le a a = true :=
  (htot a a).elim id id

theorem decide_le_total [LinearOrder K] : Total (fun a b : K => decide (a ≤ b)) := fun a b => by
  simpa only [decide_eq_true_eq] using le_total a b

theorem decide_le_trans [LinearOrder K] : Trans (fun a b : K => decide (a ≤ b)) := fun a b c => by
  simpa only [decide_eq_true_eq] using le_trans

theorem exists_mem_not_mem_of_length_lt {α : Type} {A B : List α} (hA : A.Nodup)
    (h : B.length < A.length) : ∃ x, x ∈ A ∧ x ∉ B :=
  Classical.byContradiction fun hcon =>
    have hsub : A ⊆ B := fun x hx => Classical.byContradiction fun hx' => hcon ⟨x, hx, hx'⟩
    absurd (List.subperm_of_subset hA hsub).length_le (Nat.not_le.mpr h)

theorem subset_of_no_exchange {α : Type} {A B : List α} (hB : B.Nodup)
    (hlen : A.length ≤ B.length)
    (h : ∀ i ∈ A, i ∉ B → ∀ j ∈ B, j ∉ A → False) : A ⊆ B := by
  intro i hi
  refine Classical.byContradiction fun hni => ?_
  have hnot : ¬ B ⊆ A := fun hBA =>
    hni (((List.subperm_of_subset hB hBA).perm_of_length_le hlen).mem_iff.mpr hi)
  exact hnot fun j hj => Classical.byContradiction fun hjA => h i hi hni j hj hjA

theorem exists_getElem_of_not_mem_take {α : Type} {S : List α} {x : α} {p : Nat} (hx : x ∈ S)
    (hn : x ∉ S.take p) : ∃ q, ∃ h : q < S.length, p ≤ q ∧ S[q] = x := by
  obtain ⟨q, hq, rfl⟩ := List.mem_iff_getElem.mp hx
  refine ⟨q, hq, Nat.le_of_not_lt fun hlt => hn ?_, rfl⟩
  exact List.mem_take_iff_getElem.mpr ⟨q, Nat.lt_min.mpr ⟨hlt, hq⟩, rfl⟩

theorem eq_of_sorted_minimal {R : Nat → Nat → Prop} (valid : Nat → Prop) {A B : List Nat}
    (hA : A.Nodup) (hB : B.Nodup) (hlen : A.length = B.length)
    (vA : ∀ i ∈ A, valid i) (vB : ∀ i ∈ B, valid i) (sA : A.Pairwise R) (sB : B.Pairwise R)
    (mA : ∀ i ∈ A, ∀ j, valid j → j ∉ A → R i j) (mB : ∀ i ∈ B, ∀ j, valid j → j ∉ B → R i j)
    (anti : ∀ i j, valid i → valid j → R i j → R j i → i = j) : A = B := by
  -- an element of `A` outside `B` and one of `B` outside `A` would be related both ways
  have hAB : A ⊆ B := subset_of_no_exchange hB (Nat.le_of_eq hlen) fun i hi hni j hj hnj =>
    hni (anti i j (vA i hi) (vB j hj) (mA i hi j (vB j hj) hnj) (mB j hj i (vA i hi) hni) ▸ hj)
  exact List.Perm.eq_of_pairwise (fun a b ha hb => anti a b (vA a ha) (vB b hb)) sA sB
    ((List.subperm_of_subset hA hAB).perm_of_length_le (Nat.le_of_eq hlen.symm))

theorem insertBy_perm (le : K → K → Bool) (x : K × Nat) (l : List (K × Nat)) :
    (insertBy le x l).Perm (x :: l) := by
  induction l with
  | nil => exact List.Perm.refl _
  | cons y ys ih =>
    simp only [insertBy]
    split
    · exact List.Perm.refl _
    · exact (List.Perm.cons y ih).trans (List.Perm.swap x y ys)

theorem sortBy_cons (le : K → K → Bool) (a : K × Nat) (l : List (K × Nat)) :
    sortBy le (a :: l) = insertBy le a (sortBy le l) := rfl

theorem sortBy_perm (le : K → K → Bool) (l : List (K × Nat)) : (sortBy le l).Perm l := by
  induction l with
  | nil => exact List.Perm.refl _
  | cons a l ih => exact (insertBy_perm le a _).trans (List.Perm.cons a ih)

theorem insertBy_sorted {le : K → K → Bool} (htot : Total le) (htr : Trans le) (x : K × Nat)
    (l : List (K × Nat)) (h : l.Pairwise (fun a b => le a.1 b.1 = true)) :
    (insertBy le x l).Pairwise (fun a b => le a.1 b.1 = true) := by
  induction l with
  | nil => exact List.pairwise_singleton _ _
  | cons y ys ih =>
    have hy := List.pairwise_cons.mp h
    simp only [insertBy]
    split
    · rename_i hxy
      refine List.pairwise_cons.mpr ⟨fun z hz => ?_, h⟩
      rcases List.mem_cons.mp hz with rfl | hz
      · exact hxy
      · exact htr _ _ _ hxy (hy.1 z hz)
    · rename_i hxy
      refine List.pairwise_cons.mpr ⟨fun z hz => ?_, ih hy.2⟩
      rcases List.mem_cons.mp ((insertBy_perm le x ys).mem_iff.mp hz) with rfl | hz
      · exact (htot z.1 y.1).resolve_left hxy
      · exact hy.1 z hz

theorem sortBy_sorted {le : K → K → Bool} (htot : Total le) (htr : Trans le)
    (l : List (K × Nat)) : (sortBy le l).Pairwise (fun a b => le a.1 b.1 = true) := by
  induction l with
  | nil => exact List.Pairwise.nil
  | cons a l ih => exact insertBy_sorted htot htr a _ ih

theorem le_of_sorted {le : K → K → Bool} (htot : Total le) {S : List (K × Nat)}
    (hs : S.Pairwise (fun a b => le a.1 b.1 = true)) {i j : Nat} (hij : i ≤ j)
    (hj : j < S.length) : le (S[i]'(Nat.lt_of_le_of_lt hij hj)).1 S[j].1 = true := by
  rcases Nat.eq_or_lt_of_le hij with rfl | hlt
  · exact htot.refl _
  · exact List.pairwise_iff_getElem.mp hs i j _ hj hlt

theorem insertBy_map {K' : Type} (le : K → K → Bool) (le' : K' → K' → Bool) (f : K → K')
    (x : K × Nat) (s : List (K × Nat))
    (h : ∀ y ∈ s, le' (f x.1) (f y.1) = le x.1 y.1) :
    insertBy le' (f x.1, x.2) (s.map (fun p => (f p.1, p.2)))
      = (insertBy le x s).map (fun p => (f p.1, p.2)) := by
  induction s with
  | nil => rfl
  | cons y ys ih =>
    simp only [List.map_cons, insertBy]
    rw [h y List.mem_cons_self]
    split
    · rfl
    · rw [List.map_cons, ih (fun z hz => h z (List.mem_cons_of_mem _ hz))]

theorem sortBy_map {K' : Type} (le : K → K → Bool) (le' : K' → K' → Bool) (f : K → K')
    (l : List (K × Nat))
    (h : ∀ x ∈ l, ∀ y ∈ l, le' (f x.1) (f y.1) = le x.1 y.1) :
    sortBy le' (l.map (fun p => (f p.1, p.2))) = (sortBy le l).map (fun p => (f p.1, p.2)) := by
  induction l with
  | nil => rfl
  | cons a l ih =>
    rw [List.map_cons, sortBy_cons, sortBy_cons,
      ih (fun x hx y hy => h x (List.mem_cons_of_mem _ hx) y (List.mem_cons_of_mem _ hy))]
    exact insertBy_map le le' f a _ fun y hy =>
      h a List.mem_cons_self y (List.mem_cons_of_mem _ ((sortBy_perm le l).mem_iff.mp hy))

theorem bruteKnn_length (le : K → K → Bool) (D : List K) (k : Nat) :
    (bruteKnn le D k).length = min k D.length := by
  rw [bruteKnn, List.length_take, (sortBy_perm le _).length_eq, List.length_zipIdx]

theorem bruteKnn_mem (le : K → K → Bool) (D : List K) (k : Nat) (p : K × Nat)
    (h : p ∈ bruteKnn le D k) : D[p.2]? = some p.1 :=
  List.mem_zipIdx_iff_getElem?.mp ((sortBy_perm le _).mem_iff.mp (List.mem_of_mem_take h))

theorem zipIdx_snd_nodup (D : List K) : (D.zipIdx.map Prod.snd).Nodup := by
  rw [List.zipIdx_map_snd]
  exact List.nodup_range' 1

theorem bruteKnn_nodup (le : K → K → Bool) (D : List K) (k : Nat) :
    ((bruteKnn le D k).map Prod.snd).Nodup := by
  rw [bruteKnn, List.map_take]
  exact ((((sortBy_perm le D.zipIdx).map Prod.snd).nodup_iff).mpr (zipIdx_snd_nodup D)).sublist
    (List.take_sublist _ _)

theorem bruteKnn_sorted {le : K → K → Bool} (htot : Total le) (htr : Trans le) (D : List K)
    (k : Nat) : (bruteKnn le D k).Pairwise (fun a b => le a.1 b.1 = true) :=
  List.Pairwise.sublist (List.take_sublist _ _) (sortBy_sorted htot htr _)

/-- `i = k` is allowed: that entry is itself outside the `k` nearest -/
theorem sortBy_getElem_le_of_not_mem {le : K → K → Bool} (htot : Total le) (htr : Trans le) {D : List K}
    {k i j : Nat} {d : K} (hik : i ≤ k) (hi : i < (sortBy le D.zipIdx).length)
    (hj : D[j]? = some d) (hnot : j ∉ (bruteKnn le D k).map Prod.snd) :
    le (sortBy le D.zipIdx)[i].1 d = true := by
  obtain ⟨q, hq, hkq, hqx⟩ := exists_getElem_of_not_mem_take
    ((sortBy_perm le _).mem_iff.mpr (List.mem_zipIdx_iff_getElem?.mpr hj))
    fun hm => hnot (List.mem_map.mpr ⟨(d, j), hm, rfl⟩)
  have := le_of_sorted htot (sortBy_sorted htot htr D.zipIdx) (Nat.le_trans hik hkq) hq
  rwa [hqx] at this

theorem bruteKnn_minimal {le : K → K → Bool} (htot : Total le) (htr : Trans le) (D : List K)
    (k : Nat) (p : K × Nat) (hp : p ∈ bruteKnn le D k) (j : Nat) (d : K) (hj : D[j]? = some d)
    (hnot : j ∉ (bruteKnn le D k).map Prod.snd) : le p.1 d = true := by
  obtain ⟨i, hi, rfl⟩ := List.mem_take_iff_getElem.mp hp
  have hik := Nat.lt_min.mp hi
  exact sortBy_getElem_le_of_not_mem htot htr (Nat.le_of_lt hik.1) hik.2 hj hnot

theorem zipIdx_map_key {K' : Type} (f : K → K') (D : List K) :
    (D.map f).zipIdx = D.zipIdx.map (fun p => (f p.1, p.2)) := by
  rw [List.zipIdx_map]; rfl

theorem knn_rekey {K' : Type} (le : K → K → Bool) (le' : K' → K' → Bool) (f : K → K') (D : List K)
    (k : Nat) (h : ∀ a ∈ D, ∀ b ∈ D, le' (f a) (f b) = le a b) :
    (bruteKnn le' (D.map f) k).map Prod.snd = (bruteKnn le D k).map Prod.snd := by
  unfold bruteKnn
  rw [zipIdx_map_key, sortBy_map le le' f]
  · rw [← List.map_take, List.map_map]; rfl
  · intro x hx y hy
    have hx' := List.mem_zipIdx_iff_getElem?.mp hx
    have hy' := List.mem_zipIdx_iff_getElem?.mp hy
    exact h _ (List.mem_of_getElem? hx') _ (List.mem_of_getElem? hy')

theorem radius_rekey {K' : Type} (le : K → K → Bool) (le' : K' → K' → Bool) (f : K → K') (D : List K)
    (r : K) (h : ∀ a ∈ D, le' (f a) (f r) = le a r) :
    (bruteRadius le' (D.map f) (f r)).map Prod.snd = (bruteRadius le D r).map Prod.snd := by
  unfold bruteRadius
  rw [zipIdx_map_key, List.filter_map, List.map_map]
  have : (Prod.snd ∘ fun p : K × Nat => (f p.1, p.2)) = Prod.snd := rfl
  rw [this]
  congr 1
  apply List.filter_congr
  intro x hx
  exact h _ (List.mem_of_getElem? (List.mem_zipIdx_iff_getElem?.mp hx))

theorem pairwiseB_iff {α : Type} (R : α → α → Bool) (l : List α) :
    pairwiseB R l = true ↔ l.Pairwise (fun a b => R a b = true) := by
  induction l with
  | nil => simp [pairwiseB]
  | cons a l ih =>
    simp only [pairwiseB, Bool.and_eq_true, List.all_eq_true, List.pairwise_cons, ih]

theorem slot_setSlot_same (t : TreeObj) (e : Elem) (b : Built) : (t.setSlot e b).slot e = some b := by
  cases e <;> rfl

theorem slot_setSlot_ne (t : TreeObj) (e e' : Elem) (b : Built) (h : e' ≠ e) :
    (t.setSlot e b).slot e' = t.slot e' := by
  cases e <;> cases e' <;> first | rfl | exact absurd rfl h

theorem setSlot_coords (t : TreeObj) (e : Elem) (b : Built) : (t.setSlot e b).coords = t.coords := by
  cases e <;> rfl
theorem setSlot_count (t : TreeObj) (e : Elem) (b : Built) : (t.setSlot e b).count = t.count := by
  cases e <;> rfl
theorem setSlot_sys (t : TreeObj) (e : Elem) (b : Built) : (t.setSlot e b).sys = t.sys := by
  cases e <;> rfl
theorem setSlot_metric (t : TreeObj) (e : Elem) (b : Built) : (t.setSlot e b).metric = t.metric := by
  cases e <;> rfl

end UxVerif.Knn
