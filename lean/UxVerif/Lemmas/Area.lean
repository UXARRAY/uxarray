/-
  Lemmas about `Model/Area.lean` alone, for C05: the ℕ evaluation of the triangular moment checker;
  left-to-right sums (`sumL`: zero, sign, closeness); the fan of triangles (`fan_split`, `fan_close`);
  what `allAreas`, `cartCorner`, `computeXYZ` and `faceArea` unfold to; vector algebra in components
  (`vadd`, `smul`, `proj`, Lagrange, `cross_proj`).  Also defines `M3`, `M3.apply` and `M3.Orthogonal`,
  the hypothesis of `area_rotation`, with linearity of a matrix and `dot_apply`.
-/
import Mathlib.Tactic.Ring
import Mathlib.Tactic.LinearCombination
import Mathlib.Algebra.Order.Field.Basic
import UxVerif.Model.Area

namespace UxVerif.Area

section tables

/-- `triMoment` accumulated in ℕ: the kernel multiplies and exponentiates natural-number literals in
    one step but unfolds the integer operations, and every entry the code has today is `≥ 0` -/
def triMomentN (D : Nat) (t : List TriRow) (a b c : Nat) : Nat :=
  t.foldl (fun s r =>
    s + r.w.toNat * r.g0.toNat ^ a * r.g1.toNat ^ b * (D - r.g0.toNat - r.g1.toNat) ^ c) 0

def triExactN (D : Nat) (t : List TriRow) (deg T : Nat) : Bool :=
  (t.all fun r => decide (0 ≤ r.g0 ∧ 0 ≤ r.g1 ∧ r.g0 + r.g1 ≤ D ∧ 0 ≤ r.w)) &&
  (List.range (deg + 1)).all fun a => (List.range (deg + 1 - a)).all fun b =>
    (List.range (deg + 1 - a - b)).all fun c =>
      closeB (triMomentN D t a b c) (D ^ (a + b + c + 1)) (2 * fact a * fact b * fact c)
        (fact (a + b + c + 2)) T

theorem triMoment_cast {D : Nat} {t : List TriRow}
    (h : ∀ r ∈ t, 0 ≤ r.g0 ∧ 0 ≤ r.g1 ∧ r.g0 + r.g1 ≤ D ∧ 0 ≤ r.w) (a b c : Nat) :
    triMoment D t a b c = triMomentN D t a b c := by
  unfold triMoment triMomentN
  rw [← Nat.cast_zero (R := Int)]
  generalize (0 : Nat) = s
  induction t generalizing s with
  | nil => rfl
  | cons r t ih =>
    obtain ⟨h0, h1, h2, hw⟩ := h r List.mem_cons_self
    have e : ((D - r.g0.toNat - r.g1.toNat : Nat) : Int) = D - r.g0 - r.g1 := by omega
    rw [List.foldl_cons, List.foldl_cons, ← ih fun x hx => h x (List.mem_cons_of_mem _ hx)]
    congr 1
    push_cast [e, Int.toNat_of_nonneg h0, Int.toNat_of_nonneg h1, Int.toNat_of_nonneg hw]
    rfl

/-- either checker passing gives moment exactness; the `||` lets `decide` fall back to the ℤ checker
    when a regenerated table has a negative entry -/
theorem triMomentOK_of_exactN_or_exactB {D : Nat} {t : List TriRow} {deg T : Nat}
    (h : (triExactN D t deg T || triExactB D t deg T) = true) :
    ∀ a b c, a + b + c ≤ deg → triMomentOK D t T a b c = true := by
  intro a b c habc
  rcases Bool.or_eq_true_iff.mp h with h | h
  · simp only [triExactN, Bool.and_eq_true, List.all_eq_true, List.mem_range,
      decide_eq_true_eq] at h
    rw [triMomentOK, triMoment_cast h.1]
    exact h.2 a (by omega) b (by omega) c (by omega)
  · simp only [triExactB, List.all_eq_true, List.mem_range] at h
    exact h a (by omega) b (by omega) c (by omega)

end tables

section sums
variable {K : Type} [AddCommMonoid K]

theorem sumFrom_eq_add_sumL (acc : K) (l : List K) : sumFrom acc l = acc + sumL l := by
  unfold sumL sumFrom
  induction l generalizing acc with
  | nil => simp
  | cons a l ih =>
    simp only [List.foldl_cons]
    rw [ih (acc + a), ih (0 + a), zero_add, add_assoc]

@[simp] theorem sumL_nil : sumL ([] : List K) = 0 := rfl

theorem sumL_cons (a : K) (l : List K) : sumL (a :: l) = a + sumL l := by
  show sumFrom (0 + a) l = _
  rw [sumFrom_eq_add_sumL, zero_add]

theorem sumL_append (l₁ l₂ : List K) : sumL (l₁ ++ l₂) = sumL l₁ + sumL l₂ := by
  induction l₁ with
  | nil => simp
  | cons a l ih => rw [List.cons_append, sumL_cons, sumL_cons, ih, add_assoc]

theorem sumL_flatMap {β : Type} (l : List β) (f : β → List K) :
    sumL (l.flatMap f) = sumL (l.map fun x => sumL (f x)) := by
  induction l with
  | nil => rfl
  | cons a l ih => rw [List.flatMap_cons, sumL_append, List.map_cons, sumL_cons, ih]

theorem sumL_eq_zero (l : List K) (h : ∀ x ∈ l, x = 0) : sumL l = 0 := by
  induction l with
  | nil => rfl
  | cons a l ih =>
    rw [sumL_cons, h a List.mem_cons_self, ih fun x hx => h x (List.mem_cons_of_mem _ hx), add_zero]

end sums

section order

theorem sumL_nonneg {K : Type} [AddCommMonoid K] [PartialOrder K] [IsOrderedAddMonoid K]
    (l : List K) (h : ∀ x ∈ l, 0 ≤ x) : 0 ≤ sumL l := by
  induction l with
  | nil => exact le_rfl
  | cons a l ih =>
    rw [sumL_cons]
    exact add_nonneg (h a List.mem_cons_self) (ih fun x hx => h x (List.mem_cons_of_mem _ hx))

theorem sumL_map_close {K β : Type} [Ring K] [LinearOrder K] [IsOrderedRing K] (l : List β)
    (f g : β → K) (ε : K)
    (h : ∀ x ∈ l, |f x - g x| ≤ ε) :
    |sumL (l.map f) - sumL (l.map g)| ≤ (l.length : K) * ε := by
  induction l with
  | nil => simp
  | cons a l ih =>
    rw [List.map_cons, List.map_cons, sumL_cons, sumL_cons, add_sub_add_comm, List.length_cons,
      Nat.cast_succ, add_one_mul, add_comm _ ε]
    exact (abs_add_le _ _).trans
      (add_le_add (h a List.mem_cons_self) (ih fun x hx => h x (List.mem_cons_of_mem _ hx)))

end order

section fan
variable {α : Type}

theorem fanTris_cons3 (a b c : α) (r : List α) :
    fanTris (a :: b :: c :: r) = (a, b, c) :: fanTris (a :: c :: r) := by
  simp [fanTris]

@[simp] theorem fanTris_two (a b : α) : fanTris [a, b] = [] := by simp [fanTris]
@[simp] theorem fanTris_one (a : α) : fanTris [a] = [] := by simp [fanTris]

theorem fanTris_length (l : List α) : (fanTris l).length = l.length - 2 := by
  cases l with
  | nil => rfl
  | cons a rest =>
    simp only [fanTris, List.length_map, List.length_zip, List.length_tail, List.length_cons]
    omega

theorem fanTris_map {β : Type} (f : α → β) (l : List α) :
    fanTris (l.map f) = (fanTris l).map fun t => (f t.1, f t.2.1, f t.2.2) := by
  cases l with
  | nil => rfl
  | cons a rest =>
    simp only [fanTris, List.map_cons, List.map_map]
    rw [← List.map_tail, List.zip_map, List.map_map]
    rfl

theorem mem_fanTris {l : List α} {t : α × α × α} (h : t ∈ fanTris l) :
    t.1 ∈ l ∧ t.2.1 ∈ l ∧ t.2.2 ∈ l := by
  cases l with
  | nil => simp [fanTris] at h
  | cons a rest =>
    simp only [fanTris, List.mem_map] at h
    obtain ⟨bc, hbc, rfl⟩ := h
    have h1 := (List.of_mem_zip hbc).1
    have h2 := List.mem_of_mem_tail (List.of_mem_zip hbc).2
    simp [h1, h2]

variable {K : Type} [AddCommMonoid K]

theorem fan_cons3 (T : α → α → α → K) (a b c : α) (r : List α) :
    fan T (a :: b :: c :: r) = T a b c + fan T (a :: c :: r) := by
  unfold fan
  rw [fanTris_cons3, List.map_cons, sumL_cons]

@[simp] theorem fan_two (T : α → α → α → K) (a b : α) : fan T [a, b] = 0 := by simp [fan]

theorem fan_three (T : α → α → α → K) (a b c : α) : fan T [a, b, c] = T a b c := by
  rw [fan_cons3, fan_two, add_zero]

/-- cutting the polygon `a, l₁…, d, l₂…` along the diagonal `a–d`, for ANY triangle functional -/
theorem fan_split (T : α → α → α → K) (a d : α) (l₁ l₂ : List α) :
    fan T (a :: (l₁ ++ d :: l₂)) = fan T (a :: (l₁ ++ [d])) + fan T (a :: d :: l₂) := by
  induction l₁ with
  | nil => simp
  | cons b l ih =>
    cases l with
    | nil =>
      simp only [List.cons_append, List.nil_append]
      rw [fan_cons3, fan_three]
    | cons c l =>
      simp only [List.cons_append] at ih ⊢
      rw [fan_cons3, ih, fan_cons3, add_assoc]

end fan

section close
variable {α K : Type} [Ring K] [LinearOrder K] [IsOrderedRing K]

theorem fan_close (Q T : α → α → α → K) (ε : K) (l : List α)
    (h : ∀ p ∈ l, ∀ q ∈ l, ∀ s ∈ l, |Q p q s - T p q s| ≤ ε) :
    |fan Q l - fan T l| ≤ ((l.length - 2 : ℕ) : K) * ε := by
  rw [← fanTris_length]
  refine sumL_map_close _ _ _ ε fun t ht => ?_
  obtain ⟨h1, h2, h3⟩ := mem_fanTris ht
  exact h _ h1 _ h2 _ h3

end close

section grid
variable {K : Type}

theorem allAreas_map {P Q : Type} (area : List Q → K) (g : P → Q) (coord : Int → P) (t : Table)
    (N : List Nat) :
    allAreas (fun l => area (l.map g)) coord t N = allAreas area (fun i => g (coord i)) t N := by
  simp only [allAreas, List.map_map]
  rfl

end grid

section field
variable {K : Type} [Field K]

/-- the code's single accumulator over all sub-triangles and points equals the fan sum of the
    per-triangle quadrature -/
theorem faceArea_eq_fan (sqrt : K → K) (q : Quad K) (cs : List (V3 K)) :
    faceArea sqrt q cs = fan (triQuad sqrt q) cs := by
  unfold faceArea fan triQuad
  rw [sumL_flatMap]

theorem cartCorner_three : cartCorner (K := K) 3 = id := funext fun _ => if_pos (by decide)

theorem cartCorner_two_z (p : V3 K) : (cartCorner 2 p).z = 0 := by
  simp only [cartCorner, gt_iff_lt, lt_self_iff_false, if_false, mul_zero]

theorem computeXYZ_three (sqrt : K → K) (q : Quad K) (xyz : Int → V3 K) (t : Table) (N : List Nat) :
    computeXYZ 3 sqrt q xyz t N = allAreas (faceArea sqrt q) xyz t N := by
  simp only [computeXYZ, cartCorner_three, List.map_id]

end field

section ring
variable {K : Type} [CommRing K]

def vadd (u v : V3 K) : V3 K := ⟨u.x + v.x, u.y + v.y, u.z + v.z⟩
def smul (k : K) (v : V3 K) : V3 K := ⟨k * v.x, k * v.y, k * v.z⟩

theorem dot_smul (k l : K) (u v : V3 K) : dot (smul k u) (smul l v) = k * l * dot u v := by
  simp only [dot, smul]
  ring

theorem cross_smul (k l : K) (u v : V3 K) :
    cross (smul k u) (smul l v) = smul (k * l) (cross u v) := by
  simp only [cross, smul, V3.mk.injEq]
  refine ⟨?_, ?_, ?_⟩ <;> ring

/-- Lagrange's identity: `|u × v|²` is a function of dot products -/
theorem lagrange_identity (u v : V3 K) :
    dot (cross u v) (cross u v) = dot u u * dot v v - dot u v ^ 2 := by
  simp only [dot, cross]
  ring

/-- `(F·F) A − (A·F) F`: `F·F` times the component of `A` normal to `F` -/
def proj (F A : V3 K) : V3 K := vsub (smul (dot F F) A) (smul (dot A F) F)

/-- two vectors normal to `F` have their cross product along `F` -/
theorem cross_proj (F A B : V3 K) :
    cross (proj F A) (proj F B) = smul (dot F F * dot F (cross A B)) F := by
  simp only [proj, cross, smul, vsub, dot, V3.mk.injEq]
  refine ⟨?_, ?_, ?_⟩ <;> ring

end ring

section vec
variable {K : Type} [Field K]

/-- a 3×3 matrix, row major -/
structure M3 (K : Type) where
  a11 : K
  a12 : K
  a13 : K
  a21 : K
  a22 : K
  a23 : K
  a31 : K
  a32 : K
  a33 : K

def M3.apply (R : M3 K) (v : V3 K) : V3 K :=
  ⟨R.a11 * v.x + R.a12 * v.y + R.a13 * v.z,
   R.a21 * v.x + R.a22 * v.y + R.a23 * v.z,
   R.a31 * v.x + R.a32 * v.y + R.a33 * v.z⟩

theorem M3.apply_vadd (R : M3 K) (u v : V3 K) :
    R.apply (vadd u v) = vadd (R.apply u) (R.apply v) := by
  have row (p q r : K) : p * (u.x + v.x) + q * (u.y + v.y) + r * (u.z + v.z)
      = p * u.x + q * u.y + r * u.z + (p * v.x + q * v.y + r * v.z) := by ring
  simp only [M3.apply, vadd, row]

theorem M3.apply_vsub (R : M3 K) (u v : V3 K) :
    R.apply (vsub u v) = vsub (R.apply u) (R.apply v) := by
  have row (p q r : K) : p * (u.x - v.x) + q * (u.y - v.y) + r * (u.z - v.z)
      = p * u.x + q * u.y + r * u.z - (p * v.x + q * v.y + r * v.z) := by ring
  simp only [M3.apply, vsub, row]

theorem M3.apply_smul (R : M3 K) (k : K) (v : V3 K) :
    R.apply (smul k v) = smul k (R.apply v) := by
  have row (p q r : K) : p * (k * v.x) + q * (k * v.y) + r * (k * v.z)
      = k * (p * v.x + q * v.y + r * v.z) := by ring
  simp only [M3.apply, smul, row]

/-- `Rᵀ R = I` (rotations and reflections) -/
structure M3.Orthogonal (R : M3 K) : Prop where
  c11 : R.a11 * R.a11 + R.a21 * R.a21 + R.a31 * R.a31 = 1
  c22 : R.a12 * R.a12 + R.a22 * R.a22 + R.a32 * R.a32 = 1
  c33 : R.a13 * R.a13 + R.a23 * R.a23 + R.a33 * R.a33 = 1
  c12 : R.a11 * R.a12 + R.a21 * R.a22 + R.a31 * R.a32 = 0
  c13 : R.a11 * R.a13 + R.a21 * R.a23 + R.a31 * R.a33 = 0
  c23 : R.a12 * R.a13 + R.a22 * R.a23 + R.a32 * R.a33 = 0

theorem dot_apply {R : M3 K} (h : R.Orthogonal) (u v : V3 K) :
    dot (R.apply u) (R.apply v) = dot u v := by
  simp only [dot, M3.apply]
  linear_combination (u.x * v.x) * h.c11 + (u.y * v.y) * h.c22 + (u.z * v.z) * h.c33
    + (u.x * v.y + u.y * v.x) * h.c12 + (u.x * v.z + u.z * v.x) * h.c13
    + (u.y * v.z + u.z * v.y) * h.c23

theorem proj_apply {R : M3 K} (h : R.Orthogonal) (F A : V3 K) :
    proj (R.apply F) (R.apply A) = R.apply (proj F A) := by
  rw [proj, proj, dot_apply h, dot_apply h, M3.apply_vsub, M3.apply_smul, M3.apply_smul]

end vec

end UxVerif.Area
