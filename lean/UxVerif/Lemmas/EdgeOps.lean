/-
  Lemmas about the models of `Model/EdgeOps.lean` for `Props/C16.lean`; the real instances
  `realTrig`, `realAtan2` of the transcendental functions and `oracle_eq_arccos`.
-/
import Mathlib.Analysis.SpecialFunctions.Trigonometric.Inverse
import Mathlib.Analysis.SpecialFunctions.Complex.Arg
import Mathlib.Analysis.SpecialFunctions.Trigonometric.Deriv
import Mathlib.Analysis.Calculus.Deriv.MeanValue
import Mathlib.Tactic.Ring
import Mathlib.Tactic.Linarith
import Mathlib.Tactic.NormNum
import UxVerif.Model.EdgeOps

namespace UxVerif.EdgeOps

theorem getElem?_map_of_eq {α β : Type} (F : α → β) {l : List α} {e : Nat} {x : α}
    (h : l[e]? = some x) : (l.map F)[e]? = some (F x) := by
  rw [List.getElem?_map, h]
  rfl

theorem map_edgeFaces_congr {α : Type} {F G : FaceIx × Option FaceIx → α} (ef : EdgeFaces)
    (hn : ∀ f, F (f, none) = G (f, none)) (hs : ∀ f g, F (f, some g) = G (f, some g)) :
    ef.map F = ef.map G := by
  apply List.map_congr_left
  rintro ⟨f, _ | g⟩ _
  exacts [hn f, hs f g]

theorem diff_face_eq {K : Type} [Sub K] [OfNat K 0] (abs : K → K) (ef : EdgeFaces)
    (d : FaceArr K) (e : Nat) (f g : FaceIx) (h : ef[e]? = some (f, some g)) :
    (diffFace abs ef d)[e]? = some (abs (d f - d g)) :=
  getElem?_map_of_eq _ h

theorem diff_length {K : Type} [Sub K] [OfNat K 0] {abs : K → K} (ef : EdgeFaces)
    (d : FaceArr K) : (diffFace abs ef d).length = ef.length :=
  List.length_map _

theorem diff_node_length {K : Type} [Sub K] {abs : K → K} (en : EdgeNodes) (d : NodeArr K) :
    (diffNode abs en d).length = en.length :=
  List.length_map _

theorem grad_length {K : Type} [Sub K] [Div K] [OfNat K 0] {abs : K → K} (ef : EdgeFaces)
    (dist : List K) (d : FaceArr K) (h : dist.length = ef.length) :
    (gradEdge abs ef dist d).length = ef.length := by
  rw [gradEdge, List.length_zipWith, h, Nat.min_self]

theorem gradientND_eq_map {K : Type} [Add K] [Sub K] [Mul K] [Div K] [OfNat K 0]
    (abs sqrt : K → K) (nrm : Bool) (ef : EdgeFaces) (dist : List K) (datas : List (FaceArr K)) :
    gradientND abs sqrt nrm ef dist datas = datas.map (fun d =>
      if nrm then normalizeRow sqrt (gradEdge abs ef dist d) else gradEdge abs ef dist d) := by
  cases nrm
  · rfl
  · exact List.map_map

theorem sumsq_nonneg {K : Type} [Ring K] [LinearOrder K] [IsStrictOrderedRing K]
    (row : List K) : 0 ≤ sumsq row := by
  induction row with
  | nil => exact le_rfl
  | cons x xs ih => exact add_nonneg (mul_self_nonneg x) ih

theorem sumsq_map_div {K : Type} [Field K] (row : List K) (n : K) :
    sumsq (row.map (· / n)) = sumsq row / (n * n) := by
  induction row with
  | nil => exact (zero_div _).symm
  | cons x xs ih => simp only [List.map_cons, sumsq, ih, div_mul_div_comm, add_div]

theorem sqrt_sumsq_pair {x y n : ℝ} (hn : 0 ≤ n) (h : x * x + y * y = n * n) :
    Real.sqrt (sumsq ([[x], [y]] : List (List ℝ)).flatten) = n := by
  rw [show sumsq ([[x], [y]] : List (List ℝ)).flatten = n * n from
    (congrArg (x * x + ·) (add_zero _)).trans h]
  exact Real.sqrt_mul_self hn

theorem lagrange_identity (a b : V3 ℝ) :
    dot3 (cross3 a b) (cross3 a b) = dot3 a a * dot3 b b - (dot3 a b) ^ 2 := by
  simp only [dot3, cross3]
  ring

theorem dot3_comm (a b : V3 ℝ) : dot3 a b = dot3 b a := by
  simp only [dot3]
  ring

theorem dot3_self_nonneg (a : V3 ℝ) : 0 ≤ dot3 a a :=
  add_nonneg (add_nonneg (mul_self_nonneg _) (mul_self_nonneg _)) (mul_self_nonneg _)

theorem dot3_self_pos (a : V3 ℝ) (ha : dot3 a a ≠ 0) : 0 < dot3 a a :=
  lt_of_le_of_ne (dot3_self_nonneg a) (Ne.symm ha)

/-- Cauchy–Schwarz, from Lagrange's identity -/
theorem dot3_sq_le (a b : V3 ℝ) : (dot3 a b) ^ 2 ≤ dot3 a a * dot3 b b :=
  sub_nonneg.mp ((lagrange_identity a b).symm ▸ dot3_self_nonneg (cross3 a b))

theorem dot3_scale (c d : ℝ) (a b : V3 ℝ) :
    dot3 (scale3 c a) (scale3 d b) = c * d * dot3 a b := by
  simp only [dot3, scale3]
  ring

theorem cross3_scale (c d : ℝ) (a b : V3 ℝ) :
    cross3 (scale3 c a) (scale3 d b) = scale3 (c * d) (cross3 a b) := by
  simp only [cross3, scale3]
  congr 1 <;> ring

theorem scale3_scale3 (c d : ℝ) (a : V3 ℝ) : scale3 c (scale3 d a) = scale3 (c * d) a := by
  simp only [scale3, mul_assoc]

theorem normalize3_eq_scale3 (a : V3 ℝ) :
    normalize3 Real.sqrt a = scale3 (Real.sqrt (dot3 a a))⁻¹ a := by
  simp only [normalize3, scale3, div_eq_inv_mul]

theorem sqrt_mul_self_mul {c : ℝ} (hc : 0 ≤ c) (x : ℝ) :
    Real.sqrt (c * c * x) = c * Real.sqrt x := by
  rw [Real.sqrt_mul (mul_self_nonneg c), Real.sqrt_mul_self hc]

theorem normalize3_scale (c : ℝ) (hc : 0 < c) (a : V3 ℝ) :
    normalize3 Real.sqrt (scale3 c a) = normalize3 Real.sqrt a := by
  rw [normalize3_eq_scale3, normalize3_eq_scale3, scale3_scale3, dot3_scale,
    sqrt_mul_self_mul hc.le, mul_inv, mul_right_comm, inv_mul_cancel₀ hc.ne', one_mul]

theorem normalize3_unit (a : V3 ℝ) (ha : dot3 a a ≠ 0) :
    dot3 (normalize3 Real.sqrt a) (normalize3 Real.sqrt a) = 1 := by
  rw [normalize3_eq_scale3, dot3_scale, ← mul_inv, Real.mul_self_sqrt (dot3_self_nonneg a)]
  exact inv_mul_cancel₀ ha

theorem normalize3_of_unit (a : V3 ℝ) (ha : dot3 a a = 1) : normalize3 Real.sqrt a = a := by
  rw [normalize3_eq_scale3, ha, Real.sqrt_one, inv_one]
  simp only [scale3, one_mul]

theorem sin_le_sin_of_mem_Icc (a ξ : ℝ) (ha0 : 0 ≤ a) (h1 : a ≤ ξ)
    (h2 : ξ ≤ Real.pi - a) : Real.sin a ≤ Real.sin ξ := by
  have hneg : -(Real.pi / 2) ≤ a := (neg_nonpos.mpr (half_pos Real.pi_pos).le).trans ha0
  rcases le_total ξ (Real.pi / 2) with h | h
  · exact Real.sin_le_sin_of_le_of_le_pi_div_two hneg h h1
  · rw [← Real.sin_pi_sub ξ]
    refine Real.sin_le_sin_of_le_of_le_pi_div_two hneg ?_ (le_sub_comm.mp h2)
    rw [sub_le_comm, sub_half]
    exact h

/-- mean value theorem for `cos` on `[a, π − a]` -/
theorem sin_mul_sub_le_cos_sub (a θ θ' : ℝ) (ha0 : 0 ≤ a)
    (h1 : a ≤ θ) (hle : θ ≤ θ') (h2 : θ' ≤ Real.pi - a) :
    Real.sin a * (θ' - θ) ≤ Real.cos θ - Real.cos θ' := by
  have h := (convex_Icc a (Real.pi - a)).image_sub_le_mul_sub_of_deriv_le
    Real.continuous_cos.continuousOn Real.differentiable_cos.differentiableOn
    (C := -Real.sin a) (fun x hx => ?_) θ ⟨h1, hle.trans h2⟩ θ' ⟨h1.trans hle, h2⟩ hle
  · linarith
  · rw [interior_Icc] at hx
    rw [Real.deriv_cos]
    exact neg_le_neg (sin_le_sin_of_mem_Icc a x ha0 hx.1.le hx.2.le)

end UxVerif.EdgeOps

namespace UxVerif.C16
open UxVerif UxVerif.EdgeOps

/-- the real functions the code's `np.sin/np.cos/np.arccos/np.deg2rad` approximate -/
noncomputable def realTrig : Trig ℝ :=
  { sin := Real.sin, cos := Real.cos, acos := Real.arccos, deg2rad := fun x => x * (Real.pi / 180) }

/-- `atan2 y x` as the argument of `x + y i` -/
noncomputable def realAtan2 (y x : ℝ) : ℝ := Complex.arg ⟨x, y⟩

theorem oracle_eq_arccos (a b : V3 ℝ) (ha : dot3 a a = 1) (hb : dot3 b b = 1) :
    oracleAngle Real.sqrt realAtan2 a b = Real.arccos (dot3 a b) := by
  unfold oracleAngle realAtan2
  -- for `im z ≥ 0`, `arg z = arccos (re z / ‖z‖)`, and `‖z‖ = 1` by Lagrange
  have hnorm : ‖(⟨dot3 a b, Real.sqrt (dot3 (cross3 a b) (cross3 a b))⟩ : ℂ)‖ = 1 := by
    rw [Complex.norm_eq_sqrt_sq_add_sq]
    simp only
    rw [Real.sq_sqrt (dot3_self_nonneg _), lagrange_identity, ha, hb, mul_one, add_sub_cancel,
      Real.sqrt_one]
  rw [Complex.arg_of_im_nonneg_of_ne_zero (Real.sqrt_nonneg _)
    (norm_ne_zero_iff.mp (hnorm ▸ one_ne_zero)), hnorm, div_one]

theorem gcDist_equator (lon : ℝ) (h0 : 0 ≤ lon) (h180 : lon ≤ 180) :
    gcDist realTrig 0 0 lon 0 = lon * (Real.pi / 180) := by
  have hk : 0 ≤ Real.pi / 180 := div_nonneg Real.pi_pos.le (by norm_num)
  simp only [gcDist, lawcos, realTrig, zero_mul, Real.sin_zero, Real.cos_zero, zero_sub,
    Real.cos_neg, mul_zero, one_mul, zero_add]
  refine Real.arccos_cos (mul_nonneg h0 hk) ((mul_le_mul_of_nonneg_right h180 hk).trans_eq ?_)
  ring

end UxVerif.C16
