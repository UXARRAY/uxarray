/-
  Lemmas about the index bookkeeping of `Model/Slice.lean`: `sel` (= `np.unique` without `FILL`),
  the renumbering dictionary `remap` and its inverse `back`, rows under a renumbering that fixes
  exactly `FILL`; C02's clause for a face-edge row read slot by slot (`FaceEdgeRow.real`), the
  clauses of `Slice.Pre` under names and the slot facts `slot_edge` / `edge_slot` they give, the
  equations of the tables of `sliceFaces` (with a section on pairs under renumbering on the way);
  then, one section each, the lemmas through which C09 uses `iselLast`, `reshape`, the mask of the
  latitude scan, `faceHas` and `travelEFD`.  Core Lean only.
-/
import UxVerif.Model.Slice
import UxVerif.Lemmas.SortUniq
import UxVerif.Lemmas.Rows

namespace UxVerif.Slice
open UxVerif UxVerif.Edges

/-! ### rows of a table -/

theorem rowAt_map_idx {β : Type} (idx : List β) (F : β → List Int) (i : Nat) (h : i < idx.length) :
    rowAt (idx.map F) i = F idx[i] := by
  rw [rowAt_getElem _ _ (by rw [List.length_map]; exact h), List.getElem_map]

theorem rowAt_pairRows {EF : List (Int × Int)} {e : Nat} (he : e < EF.length) :
    rowAt (pairRows EF) e = [(EF.getD e (FILL, FILL)).1, (EF.getD e (FILL, FILL)).2] := by
  simp only [rowAt, pairRows, List.getD_eq_getElem?_getD, List.getElem?_map,
    List.getElem?_eq_getElem he, Option.map_some, Option.getD_some]

theorem entry_map {g : Int → Int} (hg : g FILL = FILL) (r : List Int) (j : Nat) :
    entry (r.map g) j = g (entry r j) := by
  unfold entry
  rw [List.getD_eq_getElem?_getD, List.getD_eq_getElem?_getD, List.getElem?_map]
  cases r[j]? with
  | none => exact hg.symm
  | some x => rfl

theorem mem_gather {t : Table} {idx : List Nat} {x : Int} :
    x ∈ gather t idx ↔ ∃ f ∈ idx, x ∈ rowAt t f := by
  unfold gather; exact List.mem_flatMap

/-! ### `sel` -/

theorem mem_sel {l : List Int} {x : Int} : x ∈ sel l ↔ x ∈ l ∧ x ≠ FILL := by
  unfold sel
  rw [List.mem_filter, mem_uniqInt, bne_iff_ne]

theorem nodup_sel (l : List Int) : (sel l).Nodup := (nodup_uniqInt l).filter _

theorem sorted_sel (l : List Int) : (sel l).Pairwise (fun a b => a < b) := by
  have h : SortedBy intLt (uniqInt l) := sorted_sortUniqBy intLt_strictTotal l
  exact (h.imp (fun hab => of_decide_eq_true hab)).filter _

theorem fill_not_mem_sel (l : List Int) : FILL ∉ sel l := by
  intro h; exact (mem_sel.mp h).2 rfl

/-- `NodesExact`, and the first three clauses of `EdgesRestrict` -/
theorem sel_exact (l : List Int) :
    (sel l).Nodup ∧ (∀ v ∈ sel l, v ≠ FILL ∧ v ∈ l) ∧ (∀ v ∈ l, v ≠ FILL → v ∈ sel l) :=
  ⟨nodup_sel l, fun _ hv => (mem_sel.mp hv).symm, fun _ hv hne => mem_sel.mpr ⟨hv, hne⟩⟩

theorem row_in_sel {t : Table} {idx : List Nat} {f : Nat} (hf : f ∈ idx) :
    ∀ x ∈ rowAt t f, x = FILL ∨ x ∈ sel (gather t idx) := by
  intro x hx
  by_cases h : x = FILL
  · exact Or.inl h
  · exact Or.inr (mem_sel.mpr ⟨mem_gather.mpr ⟨f, hf, hx⟩, h⟩)

theorem touching_sel (rows : Table) (ind : List Nat) : Touching rows ind (sel (gather rows ind)) := by
  refine ⟨nodup_sel _, ?_, ?_⟩
  · intro f hf
    obtain ⟨hg, hne⟩ := mem_sel.mp hf
    exact ⟨hne, mem_gather.mp hg⟩
  · intro v hv f hf hne
    exact mem_sel.mpr ⟨mem_gather.mpr ⟨v, hv, hf⟩, hne⟩

theorem ofNat_mem_sel_gather (rows : Table) (ind : List Nat) (f : Nat) :
    Int.ofNat f ∈ sel (gather rows ind) ↔ ∃ v ∈ ind, Int.ofNat f ∈ rowAt rows v := by
  rw [mem_sel, mem_gather, and_iff_left (ofNat_ne_fill f)]

theorem forall_mem_sel_gather {rows : Table} {ind : List Nat} {P : Int → Prop}
    (h : ∀ v ∈ ind, ∀ x ∈ rowAt rows v, x = FILL ∨ P x) : ∀ x ∈ sel (gather rows ind), P x := by
  intro x hx
  obtain ⟨hg, hne⟩ := mem_sel.mp hx
  obtain ⟨v, hv, hxr⟩ := mem_gather.mp hg
  exact (h v hv x hxr).resolve_left hne

/-! ### `remap` / `back` -/

theorem remap_fill (s : List Int) : remap s FILL = FILL := if_pos rfl

theorem remap_of_ne {s : List Int} {x : Int} (h : x ≠ FILL) : remap s x = Int.ofNat (s.idxOf x) :=
  if_neg h

theorem remap_ne_fill {s : List Int} {x : Int} (h : x ≠ FILL) : remap s x ≠ FILL := by
  rw [remap_of_ne h]; exact ofNat_ne_fill _

/-- in the form `faceOf_map`, `stdRow_map`, `nNodesRow_map`, `rowSegs_map_get` take as `hg` -/
theorem remap_fixes_fill {s : List Int} : ∀ x, remap s x = FILL ↔ x = FILL :=
  fun _ => ⟨fun h => Classical.byContradiction fun hx => remap_ne_fill hx h, fun h => h ▸ remap_fill s⟩

private theorem idxOf_lt {s : List Int} {x : Int} (h : x ∈ s) : s.idxOf x < s.length :=
  List.idxOf_lt_length_iff.mpr h

theorem remap_getElem {s : List Int} (hn : s.Nodup) (hf : FILL ∉ s) {k : Nat} (hk : k < s.length) :
    remap s s[k] = Int.ofNat k := by
  rw [remap_of_ne (fun h => hf (h ▸ List.getElem_mem hk)), hn.idxOf_getElem k hk]

theorem getI?_map_remap {β} {s : List Int} (F : Int → β) {e : Int} (he : e ∈ s) (hne : e ≠ FILL) :
    getI? (s.map F) (remap s e) = some (F e) := by
  have hi := idxOf_lt he
  rw [remap_of_ne hne, getI?_ofNat, List.getElem?_map, List.getElem?_eq_getElem hi,
    List.getElem_idxOf hi]
  rfl

theorem back_fill (s : List Int) : back s FILL = FILL := if_pos rfl

theorem back_ofNat {s : List Int} {k : Nat} (h : k < s.length) : back s (Int.ofNat k) = s[k] := by
  unfold back
  rw [if_neg (ofNat_ne_fill k), getI?_ofNat, List.getElem?_eq_getElem h]; rfl

/-- the dictionary lookup is undone by reading the recorded source index -/
theorem back_remap {s : List Int} {x : Int} (h : x = FILL ∨ x ∈ s) :
    back s (remap s x) = x := by
  by_cases hx : x = FILL
  · rw [hx, remap_fill, back_fill]
  · have hm := idxOf_lt (h.resolve_left hx)
    rw [remap_of_ne hx, back_ofNat hm]
    exact List.getElem_idxOf hm

theorem remap_inj {s : List Int} {x y : Int} (hx : x = FILL ∨ x ∈ s) (hy : y = FILL ∨ y ∈ s)
    (h : remap s x = remap s y) : x = y := by
  rw [← back_remap hx, ← back_remap hy, h]

theorem remap_bound {s : List Int} {x : Int} (hx : x ∈ s) (hne : x ≠ FILL) :
    0 ≤ remap s x ∧ remap s x < s.length := by
  rw [remap_of_ne hne]
  exact ⟨Int.natCast_nonneg _, Int.ofNat_lt.mpr (idxOf_lt hx)⟩

theorem map_back_remap {s : List Int} {r : List Int} (h : ∀ x ∈ r, x = FILL ∨ x ∈ s) :
    (r.map (remap s)).map (back s) = r := by
  rw [List.map_map]
  conv => rhs; rw [← List.map_id r]
  exact List.map_congr_left (fun x hx => back_remap (h x hx))

theorem mapPair_back_remap {s : List Int} {p : Int × Int} (h1 : p.1 ∈ s) (h2 : p.2 ∈ s) :
    mapPair (back s) (mapPair (remap s) p) = p :=
  Prod.ext (back_remap (Or.inr h1)) (back_remap (Or.inr h2))

/-- renumbering is strictly increasing on the selected indices (they are kept in ascending
    order), so a sorted pair stays sorted -/
theorem remap_lt {l : List Int} {a b : Int} (ha : a ∈ sel l) (hb : b ∈ sel l) (hab : a < b) :
    remap (sel l) a < remap (sel l) b := by
  rw [remap_of_ne (mem_sel.mp ha).2, remap_of_ne (mem_sel.mp hb).2]
  have hia := idxOf_lt ha
  have hib := idxOf_lt hb
  apply Int.ofNat_lt.mpr
  -- otherwise `b` stands at or before `a` in the ascending list
  apply Nat.lt_of_not_le
  intro hle
  have hba : b ≤ a := by
    rcases Nat.lt_or_eq_of_le hle with h | h
    · have := List.pairwise_iff_getElem.mp (sorted_sel l) _ _ hib hia h
      rw [List.getElem_idxOf hib, List.getElem_idxOf hia] at this
      exact Int.le_of_lt this
    · have : (sel l)[(sel l).idxOf b] = (sel l)[(sel l).idxOf a] := by simp only [h]
      rw [List.getElem_idxOf hib, List.getElem_idxOf hia] at this
      exact Int.le_of_eq this
  exact Int.not_le.mpr hab hba

theorem remap_le {l : List Int} {a b : Int} (ha : a ∈ sel l) (hb : b ∈ sel l) (hab : a ≤ b) :
    remap (sel l) a ≤ remap (sel l) b := by
  rcases Int.lt_or_eq_of_le hab with h | h
  · exact Int.le_of_lt (remap_lt ha hb h)
  · rw [h]; exact Int.le_refl _

/-! ### pairs -/

theorem sortPair_eq_self_iff {p : Int × Int} : sortPair p = p ↔ p.1 ≤ p.2 := by
  unfold sortPair
  constructor
  · intro h
    apply Classical.byContradiction
    intro hp
    rw [if_neg hp] at h
    exact hp (Int.le_of_eq (congrArg Prod.fst h).symm)
  · exact fun h => if_pos h

/-- renumbering the selected indices keeps the row order of `np.unique(axis=0)` -/
theorem pairLt_remap {l : List Int} {p q : Int × Int} (hp : p.1 ∈ sel l ∧ p.2 ∈ sel l)
    (hq : q.1 ∈ sel l ∧ q.2 ∈ sel l) (h : pairLt p q = true) :
    pairLt (mapPair (remap (sel l)) p) (mapPair (remap (sel l)) q) = true := by
  simp only [pairLt, Bool.or_eq_true, Bool.and_eq_true, decide_eq_true_eq] at h ⊢
  rcases h with h | ⟨h1, h2⟩
  · exact Or.inl (remap_lt hp.1 hq.1 h)
  · exact Or.inr ⟨congrArg (remap (sel l)) h1, remap_lt hp.2 hq.2 h2⟩

/-- any renumbering respects "same unordered pair" -/
theorem sortPair_mapPair (g : Int → Int) {p q : Int × Int} (h : sortPair p = sortPair q) :
    sortPair (mapPair g p) = sortPair (mapPair g q) := by
  rcases sortPair_eq h with rfl | h
  · rfl
  · rw [h]
    exact sortPair_swap (mapPair g q)

/-- a renumbering injective on `S` reflects "same unordered pair" for pairs from `S` -/
theorem mapPair_inj_sort {g : Int → Int} {p q : Int × Int} {S : Int → Prop}
    (hg : ∀ x y, S x → S y → g x = g y → x = y)
    (hp : S p.1 ∧ S p.2) (hq : S q.1 ∧ S q.2)
    (h : sortPair (mapPair g p) = sortPair (mapPair g q)) : sortPair p = sortPair q := by
  rcases sortPair_eq h with h | h
  · have h1 : g p.1 = g q.1 := congrArg Prod.fst h
    have h2 : g p.2 = g q.2 := congrArg Prod.snd h
    rw [Prod.ext (hg _ _ hp.1 hq.1 h1) (hg _ _ hp.2 hq.2 h2)]
  · have h1 : g p.1 = g q.2 := congrArg Prod.fst h
    have h2 : g p.2 = g q.1 := congrArg Prod.snd h
    have : p = (q.2, q.1) := Prod.ext (hg _ _ hp.1 hq.2 h1) (hg _ _ hp.2 hq.1 h2)
    rw [this]; exact sortPair_swap q

/-! ### rows under a renumbering that fixes exactly `FILL` -/

theorem segs_map {α β} (g : α → β) (l : List α) :
    segs (l.map g) = (segs l).map (fun q => (g q.1, g q.2)) := by
  cases l with
  | nil => rfl
  | cons a l =>
    rw [List.map_cons, segs_cons, segs_cons, ← List.map_singleton (f := g), ← List.map_append,
      ← List.map_cons, List.zip_map]
    rfl

theorem rowSegs_map_get {g : Int → Int} (hg : ∀ x, g x = FILL ↔ x = FILL) {r : List Int} {j : Nat}
    {p : Int × Int} (hp : (rowSegs r)[j]? = some (sortPair p)) :
    (rowSegs (r.map g))[j]? = some (sortPair (mapPair g p)) := by
  unfold rowSegs at hp ⊢
  rw [faceOf_map hg, segs_map, List.map_map, List.getElem?_map]
  rw [List.getElem?_map] at hp
  cases hq : (segs (faceOf r))[j]? with
  | none => rw [hq] at hp; cases hp
  | some q =>
    rw [hq] at hp
    exact congrArg some (sortPair_mapPair g (Option.some.inj hp))

/-! ### the C02 clause for one face-edge row, slot by slot -/

theorem edgeAt_of_getI? {EN : List (Int × Int)} {e : Int} {p : Int × Int}
    (h : getI? EN e = some p) : edgeAt EN e = p := by
  unfold edgeAt; rw [h]; rfl

/-- `FaceEdgeRow.slot` with the row named by `edgeAt`, in the `[j]?` form `rowSegs_map_get` consumes -/
theorem _root_.UxVerif.Edges.FaceEdgeRow.real {E : List (Int × Int)} {w : Nat} {r fe : List Int}
    (h : FaceEdgeRow E w r fe) {j : Nat} (hj : j < (faceOf r).length) (hjw : j < w) :
    getI? E (entry fe j) = some (edgeAt E (entry fe j)) ∧
      (rowSegs r)[j]? = some (sortPair (edgeAt E (entry fe j))) := by
  obtain ⟨e, he, hse⟩ := h.slot hj hjw
  rw [edgeAt_of_getI? he, hse]
  exact ⟨he, List.getElem?_eq_getElem _⟩

/-! ### the precondition, clause by clause -/

section Pre
variable {n w : Nat} {s : Src} {idx : List Nat}

theorem Pre.std (h : Pre n w s idx) : StdForm n w s.t := h.1
theorem Pre.spec (h : Pre n w s idx) : Edges.Spec s.t w ⟨s.EN, s.FE, nNodesPerFace s.t⟩ := h.2.1
theorem Pre.lt (h : Pre n w s idx) {f : Nat} (hf : f ∈ idx) : f < s.t.length := h.2.2.1 f hf
theorem Pre.nodup (h : Pre n w s idx) : idx.Nodup := h.2.2.2
theorem Pre.once (h : Pre n w s idx) : EdgesOnce s.EN := h.spec.once
theorem Pre.feLen (h : Pre n w s idx) : s.FE.length = s.t.length := h.spec.feLen

theorem Pre.stdRow (h : Pre n w s idx) {f : Nat} (hf : f ∈ idx) : StdRow n w (rowAt s.t f) :=
  h.std _ (rowAt_mem (h.lt hf))

theorem Pre.feRow (h : Pre n w s idx) {f : Nat} (hf : f ∈ idx) :
    FaceEdgeRow s.EN w (rowAt s.t f) (rowAt s.FE f) := h.spec.feRow (h.lt hf)

/-- slot `j < N[f]` of a selected face `f` holds a selected edge, a valid row of the source's edge
    table, and the source's (correct) tables say it joins corners `j` and `j+1` of `f` -/
theorem slot_edge (h : Pre n w s idx) {f : Nat} (hf : f ∈ idx) {j : Nat}
    (hj : j < (faceOf (rowAt s.t f)).length) :
    entry (rowAt s.FE f) j ∈ edgeSel s idx ∧
    getI? s.EN (entry (rowAt s.FE f) j) = some (edgeAt s.EN (entry (rowAt s.FE f) j)) ∧
    (rowSegs (rowAt s.t f))[j]? = some (sortPair (edgeAt s.EN (entry (rowAt s.FE f) j))) := by
  have hrow := h.feRow hf
  have hjw : j < w :=
    (h.stdRow hf).1 ▸ Nat.lt_of_lt_of_le hj (faceOf_length_le _)
  obtain ⟨hv, hseg⟩ := hrow.real hj hjw
  refine ⟨mem_sel.mpr ⟨mem_gather.mpr ⟨f, hf, entry_mem (hrow.1 ▸ hjw)⟩, ?_⟩, hv, hseg⟩
  exact ne_FILL_of_nonneg (getI?_eq_some.mp hv).1

/-- every selected edge sits in a real slot of a selected face -/
theorem edge_slot (h : Pre n w s idx) {e : Int} (he : e ∈ edgeSel s idx) :
    ∃ f ∈ idx, ∃ j, j < (faceOf (rowAt s.t f)).length ∧ entry (rowAt s.FE f) j = e := by
  obtain ⟨hg, hne⟩ := mem_sel.mp he
  obtain ⟨f, hf, hx⟩ := mem_gather.mp hg
  obtain ⟨j, hj, hje⟩ := List.getElem_of_mem hx
  have hent : entry (rowAt s.FE f) j = e := (entry_eq_getElem _ _ hj).trans hje
  have hrow := h.feRow hf
  refine ⟨f, hf, j, Classical.byContradiction fun hjk => hne ?_, hent⟩
  rw [← hent]
  exact hrow.fill (Nat.le_of_not_lt hjk) (hrow.1 ▸ hj)

/-- every selected edge is a valid row number of the source's edge table -/
theorem edge_valid (h : Pre n w s idx) {e : Int} (he : e ∈ edgeSel s idx) :
    getI? s.EN e = some (edgeAt s.EN e) := by
  obtain ⟨f, hf, j, hj, rfl⟩ := edge_slot h he
  exact (slot_edge h hf hj).2.1

theorem corner_selected {f : Nat} (hf : f ∈ idx) {x : Int} (hx : x ∈ faceOf (rowAt s.t f)) :
    x ∈ nodeSel s idx :=
  (row_in_sel hf x ((List.takeWhile_sublist _).subset hx)).resolve_left (faceOf_ne_fill _ x hx)

theorem edge_nodes_selected (h : Pre n w s idx) {e : Int} (he : e ∈ edgeSel s idx) :
    (edgeAt s.EN e).1 ∈ nodeSel s idx ∧ (edgeAt s.EN e).2 ∈ nodeSel s idx := by
  obtain ⟨f, hf, j, hj, rfl⟩ := edge_slot h he
  have hc := mem_rowSegs_comps _ _ (List.mem_of_getElem? (slot_edge h hf hj).2.2)
  exact (sortPair_comps _ (· ∈ nodeSel s idx)).mp ⟨corner_selected hf hc.1, corner_selected hf hc.2⟩

theorem mem_faceEdgesOf_src (h : Pre n w s idx) {f : Nat} (hf : f ∈ idx) {x : Int} :
    x ∈ Incidence.faceEdgesOf s.FE (nNodesPerFace s.t) f ↔
      ∃ j, j < (faceOf (rowAt s.t f)).length ∧ entry (rowAt s.FE f) j = x := by
  have hw : (faceOf (rowAt s.t f)).length ≤ (rowAt s.FE f).length :=
    (h.feRow hf).1 ▸ (h.stdRow hf).1 ▸ faceOf_length_le _
  unfold Incidence.faceEdgesOf
  rw [nNodesPerFace_getD, nNodesRow_std (h.stdRow hf), List.mem_take_iff_getElem]
  constructor
  · rintro ⟨j, hj, rfl⟩
    have hj := Nat.min_eq_left hw ▸ hj
    exact ⟨j, hj, entry_eq_getElem _ _ (Nat.lt_of_lt_of_le hj hw)⟩
  · rintro ⟨j, hj, rfl⟩
    exact ⟨j, (Nat.min_eq_left hw).symm ▸ hj, (entry_eq_getElem _ _ (Nat.lt_of_lt_of_le hj hw)).symm⟩

end Pre

/-! ### the tables of `sliceFaces` -/

/-- the clause shape shared by `CornersExact` (`t := s.t`) and `FaceEdgesRestrict` (`t := s.FE`) -/
theorem rows_back_remap (t : Table) (idx : List Nat) :
    (idx.map (fun f => (rowAt t f).map (remap (sel (gather t idx))))).length = idx.length ∧
    ∀ i, i < idx.length →
      (rowAt (idx.map (fun f => (rowAt t f).map (remap (sel (gather t idx))))) i).map
        (back (sel (gather t idx))) = rowAt t (idx.getD i 0) := by
  refine ⟨List.length_map _, fun i hi => ?_⟩
  rw [rowAt_map_idx idx _ i hi, getD_lt 0 hi]
  exact map_back_remap (row_in_sel (List.getElem_mem hi))

section Sub
variable (s : Src) (idx : List Nat)

theorem sliceFaces_t :
    (sliceFaces s idx).t = idx.map (fun f => (rowAt s.t f).map (remap (nodeSel s idx))) := rfl

theorem sliceFaces_EN : (sliceFaces s idx).EN
    = (edgeSel s idx).map (fun e => mapPair (remap (nodeSel s idx)) (edgeAt s.EN e)) := rfl

theorem sliceFaces_FE :
    (sliceFaces s idx).FE = idx.map (fun f => (rowAt s.FE f).map (remap (edgeSel s idx))) := rfl

variable {s idx}

theorem rowAt_sub_t {i : Nat} (hi : i < idx.length) :
    rowAt (sliceFaces s idx).t i = (rowAt s.t idx[i]).map (remap (nodeSel s idx)) :=
  rowAt_map_idx idx _ i hi

theorem rowAt_sub_FE {i : Nat} (hi : i < idx.length) :
    rowAt (sliceFaces s idx).FE i = (rowAt s.FE idx[i]).map (remap (edgeSel s idx)) :=
  rowAt_map_idx idx _ i hi

theorem mem_sub_t {r' : List Int} (hr : r' ∈ (sliceFaces s idx).t) :
    ∃ f ∈ idx, r' = (rowAt s.t f).map (remap (nodeSel s idx)) := by
  rcases List.mem_map.mp hr with ⟨f, hf, rfl⟩
  exact ⟨f, hf, rfl⟩

theorem faceEdgesOf_sub (s : Src) {idx : List Nat} {i : Nat} (hi : i < idx.length) :
    Incidence.faceEdgesOf (sliceFaces s idx).FE (nNodesPerFace (sliceFaces s idx).t) i
      = (Incidence.faceEdgesOf s.FE (nNodesPerFace s.t) idx[i]).map (remap (edgeSel s idx)) := by
  unfold Incidence.faceEdgesOf
  rw [rowAt_sub_FE hi, nNodesPerFace_getD, nNodesPerFace_getD, rowAt_sub_t hi,
    nNodesRow_map (remap_fixes_fill), List.map_take]

end Sub

/-! ### `iselLast` -/

theorem getElem?_iselLast {α} (d : List α) (ri : List Nat) (i : Nat) :
    (iselLast d ri)[i]? = ri[i]?.map (d[·]?) := List.getElem?_map

/-! ### `reshape` -/

theorem flatten_length_const (T : Table) (w : Nat) (h : ∀ r ∈ T, r.length = w) :
    T.flatten.length = T.length * w := by
  induction T with
  | nil => exact (Nat.zero_mul w).symm
  | cons r T ih =>
    rw [List.flatten_cons, List.length_append, h r List.mem_cons_self,
      ih fun r hr => h r (List.mem_cons_of_mem _ hr), List.length_cons, Nat.succ_mul, Nat.add_comm]

theorem flatten_drop (T : Table) (w : Nat) (h : ∀ r ∈ T, r.length = w) (i : Nat) :
    T.flatten.drop (i * w) = (T.drop i).flatten := by
  induction T generalizing i with
  | nil => rw [List.drop_nil, List.flatten_nil, List.drop_nil]
  | cons r T ih =>
    cases i with
    | zero => rw [Nat.zero_mul]; rfl
    | succ i =>
      rw [List.flatten_cons, List.drop_succ_cons, Nat.succ_mul, Nat.add_comm,
        ← h r List.mem_cons_self, List.drop_length_add_append, h r List.mem_cons_self]
      exact ih (fun r hr => h r (List.mem_cons_of_mem _ hr)) i

/-- `inverse_indices.reshape(n_face, w)` of the flattened table gives the table back -/
theorem reshape_flatten (T : Table) (w : Nat) (hw : T ≠ [] → 0 < w) (h : ∀ r ∈ T, r.length = w) :
    reshape w T.flatten = T := by
  unfold reshape
  rw [flatten_length_const T w h]
  by_cases hT : T = []
  · subst hT; rw [List.length_nil, Nat.zero_mul, Nat.zero_div]; rfl
  · rw [Nat.mul_div_cancel _ (hw hT)]
    apply List.ext_getElem
    · rw [List.length_map, List.length_range]
    · intro i h1 h2
      have hi : (T[i]).length = w := h _ (List.getElem_mem h2)
      rw [List.getElem_map, List.getElem_range, flatten_drop T w h i, List.drop_eq_getElem_cons h2,
        List.flatten_cons, List.take_left' hi]

theorem faceEdges_rows (t : Table) (w : Nat) (hw : ∀ r ∈ t, r.length = w) :
    ∀ r ∈ faceEdges t, r.length = w := by
  intro r hr
  obtain ⟨r0, hr0, rfl⟩ := List.mem_map.mp hr
  rw [List.length_map, rowPairs_length, hw r0 hr0]

/-! ### the mask of the latitude scan -/

theorem getElem?_set_true (m : List Bool) (i k : Nat) :
    (m.set i true)[k]? = m[k]?.map (· || decide (k = i)) := by
  by_cases h : k = i
  · rw [h, List.getElem?_set_self', decide_eq_true rfl]
    simp only [Bool.or_true]
    rfl
  · rw [List.getElem?_set_ne (Ne.symm h), decide_eq_false h]
    simp only [Bool.or_false, Option.map_id']

theorem length_foldl_set_true (is : List Nat) (m : List Bool) :
    (is.foldl (fun m i => m.set i true) m).length = m.length := by
  induction is generalizing m with
  | nil => rfl
  | cons i is ih => rw [List.foldl_cons, ih, List.length_set]

theorem getElem?_foldl_set_true (is : List Nat) (m : List Bool) (k : Nat) :
    (is.foldl (fun m i => m.set i true) m)[k]? = m[k]?.map (· || decide (k ∈ is)) := by
  induction is generalizing m with
  | nil =>
    simp only [List.foldl_nil, List.not_mem_nil, decide_false, Bool.or_false, Option.map_id']
  | cons i is ih =>
    rw [List.foldl_cons, ih, getElem?_set_true, Option.map_map]
    simp only [Function.comp_def, Bool.or_assoc, ← Bool.decide_or, List.mem_cons]

section Scan
variable {K : Type} [Sub K] [Mul K] [LT K] [DecidableLT K] [OfNat K 0]

theorem maskStep_eq (c : K) (Z : List (K × K)) (m : List Bool) (i : Nat) :
    maskStep c Z m i = if Z[i]?.any (crosses c) then m.set i true else m := by
  unfold maskStep
  cases Z[i]? <;> rfl

theorem maskStep_length (c : K) (Z : List (K × K)) (m : List Bool) (i : Nat) :
    (maskStep c Z m i).length = m.length := by
  rw [maskStep_eq]
  split
  · exact List.length_set
  · rfl

theorem maskLoop_eq (c : K) (Z : List (K × K)) (order : List Nat) :
    maskLoop c Z order =
      (order.filter fun i => Z[i]?.any (crosses c)).foldl (fun m i => m.set i true)
        (List.replicate Z.length false) := by
  rw [maskLoop, List.foldl_filter]
  exact congrArg (fun f => List.foldl f _ order) (funext fun m => funext fun i => maskStep_eq c Z m i)

theorem maskLoop_length (c : K) (Z : List (K × K)) (order : List Nat) :
    (maskLoop c Z order).length = Z.length := by
  rw [maskLoop_eq, length_foldl_set_true, List.length_replicate]

theorem maskLoop_get (c : K) (Z : List (K × K)) (order : List Nat) (k : Nat) :
    (maskLoop c Z order)[k]? =
      if k < Z.length then some (decide (k ∈ order.filter fun i => Z[i]?.any (crosses c)))
      else none := by
  rw [maskLoop_eq, getElem?_foldl_set_true, List.getElem?_replicate]
  split <;> rfl

theorem mem_maskIdx (m : List Bool) (k : Nat) : k ∈ maskIdx m ↔ m[k]? = some true := by
  rw [maskIdx, List.mem_filter, List.mem_range, List.getD_eq_getElem?_getD,
    List.getElem?_eq_some_iff]
  constructor
  · rintro ⟨hk, h⟩
    exact ⟨hk, by rwa [List.getElem?_eq_getElem hk] at h⟩
  · rintro ⟨hk, h⟩
    exact ⟨hk, by rw [List.getElem?_eq_getElem hk, h]; rfl⟩

theorem mem_crossingEdges (c : K) (Z : List (K × K)) (order : List Nat) (e : Nat) :
    e ∈ crossingEdges c Z order ↔ e ∈ order ∧ ∃ z, Z[e]? = some z ∧ crosses c z = true := by
  rw [crossingEdges, mem_maskIdx, maskLoop_get, ← Option.any_eq_true]
  split
  next => rw [Option.some_inj, decide_eq_true_iff, List.mem_filter]
  next he =>
    rw [List.getElem?_eq_none (Nat.le_of_not_lt he)]
    exact ⟨nofun, fun h => nomatch h.2⟩

theorem crossingEdges_iff (c : K) (Z : List (K × K)) {order : List Nat}
    (h : order.Perm (List.range Z.length)) (e : Nat) :
    e ∈ crossingEdges c Z order ↔ ∃ z, Z[e]? = some z ∧ crosses c z = true := by
  rw [mem_crossingEdges, h.mem_iff, List.mem_range, and_iff_right_iff_imp]
  rintro ⟨z, hz, _⟩
  exact (List.getElem?_eq_some_iff.mp hz).1

theorem crossingEdges_lt (c : K) (Z : List (K × K)) (order : List Nat) :
    ∀ e ∈ crossingEdges c Z order, e < Z.length := by
  intro e he
  obtain ⟨_, z, hz, _⟩ := (mem_crossingEdges c Z order e).mp he
  exact (List.getElem?_eq_some_iff.mp hz).1

end Scan

/-! ### `faceHas` -/

theorem strictlyOpposite_iff {K : Type} [LT K] [DecidableLT K] (c : K) (z : K × K) :
    strictlyOpposite c z = true ↔ (z.1 < c ∧ c < z.2) ∨ (z.2 < c ∧ c < z.1) := by
  simp only [strictlyOpposite, Bool.or_eq_true, Bool.and_eq_true, decide_eq_true_eq]

theorem mem_edgesOfFace (FE : Table) (N : List Nat) (f e : Nat) :
    e ∈ edgesOfFace FE N f ↔ Int.ofNat e ∈ Incidence.faceEdgesOf FE N f := by
  rw [edgesOfFace, List.mem_map]
  constructor
  · rintro ⟨x, hx, rfl⟩
    obtain ⟨hx, h0⟩ := List.mem_filter.mp hx
    rwa [Int.ofNat_eq_natCast, Int.toNat_of_nonneg (of_decide_eq_true h0)]
  · intro he
    exact ⟨Int.ofNat e, List.mem_filter.mpr ⟨he, rfl⟩, rfl⟩

theorem faceHas_eq {K : Type} (p : K × K → Bool)
    (Z : List (K × K)) (FE : Table) (N : List Nat) (f : Nat) :
    faceHas p Z FE N f = (edgesOfFace FE N f).any (fun e => Z[e]?.any p) := by
  unfold faceHas
  congr 1
  funext e
  cases Z[e]? <;> rfl

theorem faceHas_iff {K : Type} (p : K × K → Bool)
    (Z : List (K × K)) (FE : Table) (N : List Nat) (f : Nat) :
    faceHas p Z FE N f = true ↔
      ∃ e z, Int.ofNat e ∈ Incidence.faceEdgesOf FE N f ∧ Z[e]? = some z ∧ p z = true := by
  simp only [faceHas_eq, List.any_eq_true, mem_edgesOfFace, Option.any_eq_true, exists_and_left]

theorem faceHas_map_congr {K : Type} {p q : K × K → Bool}
    {F : K × K → K × K} {Z : List (K × K)} (h : ∀ z ∈ Z, p (F z) = q z) (FE : Table) (N : List Nat)
    (f : Nat) : faceHas p (Z.map F) FE N f = faceHas q Z FE N f := by
  unfold faceHas
  congr 1
  funext e
  rw [List.getElem?_map]
  cases hz : Z[e]? with
  | none => rfl
  | some z => exact h z (List.mem_of_getElem? hz)

/-! ### `travelEFD` -/

theorem renF_ofNat {idx : List Nat} (hn : idx.Nodup) {i : Nat} (hi : i < idx.length) :
    renF idx (Int.ofNat idx[i]) = Int.ofNat i := by
  unfold renF
  rw [if_pos ⟨Int.natCast_nonneg _, List.getElem_mem hi⟩]
  exact congrArg Int.ofNat (hn.idxOf_getElem i hi)

theorem selectedF_iff {idx : List Nat} {x : Int} :
    selectedF idx x = true ↔ ∃ i, ∃ hi : i < idx.length, x = Int.ofNat idx[i] := by
  unfold selectedF
  rw [decide_eq_true_iff]
  constructor
  · rintro ⟨h0, hm⟩
    obtain ⟨i, hi, he⟩ := List.getElem_of_mem hm
    exact ⟨i, hi, by rw [he]; exact (Int.toNat_of_nonneg h0).symm⟩
  · rintro ⟨i, hi, rfl⟩
    exact ⟨Int.natCast_nonneg _, List.getElem_mem hi⟩

/-- what `travelEFD true` makes of an edge whose two source faces are `p`: the subset's numbers of
    the two faces when both were selected, nothing otherwise -/
def carried (idx : List Nat) (p : Int × Int) : Option (Int × Int) :=
  if selectedF idx p.1 && selectedF idx p.2 then some (sortPair (renF idx p.1, renF idx p.2))
  else none

theorem carried_sortPair (idx : List Nat) (p : Int × Int) : carried idx (sortPair p) = carried idx p := by
  rcases sortPair_cases p with h | h <;> rw [h]
  unfold carried
  rw [Bool.and_comm, sortPair_swap (renF idx p.1, renF idx p.2)]

theorem carried_of_fill {idx : List Nat} {p : Int × Int} (h : p.2 = FILL) : carried idx p = none := by
  have : selectedF idx p.2 = false := by rw [h]; exact decide_eq_false (fun h0 => Int.not_le.mpr FILL_neg h0.1)
  unfold carried
  rw [this, Bool.and_false]
  rfl

theorem travelEFD_true (idx : List Nat) (es : List Int) (v : List (Option (Int × Int))) :
    travelEFD true idx es v = es.map (fun e => (getI? v e).join.bind (carried idx)) := by
  unfold travelEFD
  apply List.map_congr_left
  intro e _
  cases (getI? v e).join with
  | none => rfl
  | some p =>
    show (if (true && !(selectedF idx p.1 && selectedF idx p.2)) = true then none else _) = carried idx p
    unfold carried
    cases selectedF idx p.1 && selectedF idx p.2 <;> rfl

private theorem pair_cases {α} {a b x y : α} (ha : a = x ∨ a = y) (hb : b = x ∨ b = y) (hab : a ≠ b) :
    (a = x ∧ b = y) ∨ (a = y ∧ b = x) := by
  rcases ha with ha | ha <;> rcases hb with hb | hb
  · exact absurd (ha.trans hb.symm) hab
  · exact Or.inl ⟨ha, hb⟩
  · exact Or.inr ⟨ha, hb⟩
  · exact absurd (ha.trans hb.symm) hab

/-- **one edge.**  `p` lists the one or two source faces of an edge, `q` the faces of the same edge
    in the subset, and subset face `i` is listed in `q` iff source face `idx[i]` is listed in `p`
    (`M`).  Then `q` is `p` masked to the selected faces and renumbered: both have two entries, which
    correspond, or `q` has a single face and `p` was not wholly selected.  (`hqv`, `M` are in the
    form `Incidence.EdgeFaceOK` states them.) -/
theorem carried_eq {idx : List Nat} (hn : idx.Nodup) {p q : Int × Int}
    (hp : p.1 ≠ p.2) (hq : q.1 ≠ q.2) (hq1 : q.1 ≠ FILL)
    (hqv : ∀ y ∈ [q.1, q.2], y = FILL ∨ (0 ≤ y ∧ y < idx.length))
    (M : ∀ i (hi : i < idx.length), (Int.ofNat i = q.1 ∨ Int.ofNat i = q.2) ↔
        (Int.ofNat idx[i] = p.1 ∨ Int.ofNat idx[i] = p.2)) :
    carried idx p = if q.2 = FILL then none else some (sortPair q) := by
  unfold carried
  by_cases hs : (selectedF idx p.1 && selectedF idx p.2) = true
  · -- both faces selected, at positions `i1 ≠ i2`: these are the two entries of `q`
    rw [if_pos hs]
    obtain ⟨s1, s2⟩ := Bool.and_eq_true_iff.mp hs
    obtain ⟨i1, hi1, e1⟩ := selectedF_iff.mp s1
    obtain ⟨i2, hi2, e2⟩ := selectedF_iff.mp s2
    have hne : Int.ofNat i1 ≠ Int.ofNat i2 := by
      intro hh
      have : i1 = i2 := Int.ofNat.inj hh
      subst this
      exact hp (e1.trans e2.symm)
    rw [e1, e2, renF_ofNat hn hi1, renF_ofNat hn hi2]
    rcases pair_cases ((M i1 hi1).mpr (Or.inl e1.symm)) ((M i2 hi2).mpr (Or.inr e2.symm)) hne
      with ⟨m1, m2⟩ | ⟨m1, m2⟩
    · rw [if_neg (m2 ▸ ofNat_ne_fill i2), m1, m2]
    · rw [if_neg (m1 ▸ ofNat_ne_fill i1), m1, m2]
      exact congrArg some (sortPair_swap q)
  · -- otherwise `q` cannot list two faces: they would be the positions of both faces of `p`
    rw [if_neg hs]
    by_cases hq2 : q.2 = FILL
    · rw [if_pos hq2]
    · exfalso
      apply hs
      obtain ⟨a0, a1⟩ := (hqv q.1 List.mem_cons_self).resolve_left hq1
      obtain ⟨b0, b1⟩ := (hqv q.2 (List.mem_cons_of_mem _ List.mem_cons_self)).resolve_left hq2
      have hj1 := (Int.toNat_lt a0).mpr a1
      have hj2 := (Int.toNat_lt b0).mpr b1
      have c1 : Int.ofNat q.1.toNat = q.1 := Int.toNat_of_nonneg a0
      have c2 : Int.ofNat q.2.toNat = q.2 := Int.toNat_of_nonneg b0
      have hne : Int.ofNat idx[q.1.toNat] ≠ Int.ofNat idx[q.2.toNat] := fun hh =>
        hq (by rw [← c1, ← c2, (hn.idxOf_getElem _ hj1).symm.trans
          ((congrArg (fun x => List.idxOf x idx) (Int.ofNat.inj hh)).trans (hn.idxOf_getElem _ hj2))])
      have sel : ∀ {j : Nat} (hj : j < idx.length) {x : Int}, Int.ofNat idx[j] = x →
          selectedF idx x = true := fun hj _ e => selectedF_iff.mpr ⟨_, hj, e.symm⟩
      rcases pair_cases ((M _ hj1).mp (Or.inl c1)) ((M _ hj2).mp (Or.inr c2)) hne
        with ⟨m1, m2⟩ | ⟨m1, m2⟩
      · exact Bool.and_eq_true_iff.mpr ⟨sel hj1 m1, sel hj2 m2⟩
      · exact Bool.and_eq_true_iff.mpr ⟨sel hj2 m2, sel hj1 m1⟩

theorem efdOf_getElem {EF : List (Int × Int)} {k : Nat} (h : k < (efdOf EF).length) :
    (efdOf EF)[k] = if (EF[k]'(by rwa [efdOf, List.length_map] at h)).2 = FILL then none
      else some (sortPair (EF[k]'(by rwa [efdOf, List.length_map] at h))) :=
  List.getElem_map _

end UxVerif.Slice
