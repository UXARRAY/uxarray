/-
  The insertion sort by distance of `Model/Slice.lean` (`insByDist`, `sortByDist`, `knnSel`): it
  permutes, it sorts, and `knnSel d k` is the first `k` entries of a sorted enumeration of all
  indices (`knnSel_eq_take`).  Used by `knn_spec` in `Props/C09.lean`.
-/
import Mathlib.Order.Defs.LinearOrder
import UxVerif.Model.Slice

namespace UxVerif.Slice
open UxVerif

theorem pairwise_take_rel {α} {R : α → α → Prop} {s : List α} (h : s.Pairwise R) (k : Nat)
    {a b : α} (ha : a ∈ s.take k) (hb : b ∈ s) (hnb : b ∉ s.take k) : R a b := by
  rw [← List.take_append_drop k s] at h hb
  exact (List.pairwise_append.mp h).2.2 a ha b ((List.mem_append.mp hb).resolve_left hnb)

section Knn
variable {K : Type} [LinearOrder K]

theorem insByDist_perm (x : K × Nat) (l : List (K × Nat)) : (insByDist x l).Perm (x :: l) := by
  induction l with
  | nil => exact .refl _
  | cons y ys ih =>
    unfold insByDist
    split
    · exact (ih.cons y).trans (.swap x y ys)
    · exact .refl _

theorem sortByDist_perm (l : List (K × Nat)) : (sortByDist l).Perm l := by
  induction l with
  | nil => exact .refl _
  | cons x xs ih => exact (insByDist_perm x _).trans (ih.cons x)

theorem insByDist_sorted (x : K × Nat) (l : List (K × Nat))
    (h : l.Pairwise (fun a b => a.1 ≤ b.1)) : (insByDist x l).Pairwise (fun a b => a.1 ≤ b.1) := by
  induction l with
  | nil => exact List.pairwise_singleton _ _
  | cons y ys ih =>
    obtain ⟨hy, hys⟩ := List.pairwise_cons.mp h
    unfold insByDist
    split
    next hyx =>
      refine List.pairwise_cons.mpr ⟨fun b hb => ?_, ih hys⟩
      rcases List.mem_cons.mp ((insByDist_perm x ys).mem_iff.mp hb) with rfl | hb
      · exact hyx
      · exact hy b hb
    next hyx =>
      have hxy : x.1 ≤ y.1 := le_of_not_ge hyx
      exact List.pairwise_cons.mpr
        ⟨List.forall_mem_cons.mpr ⟨hxy, fun b hb => le_trans hxy (hy b hb)⟩, h⟩

theorem sortByDist_sorted (l : List (K × Nat)) : (sortByDist l).Pairwise (fun a b => a.1 ≤ b.1) := by
  induction l with
  | nil => exact .nil
  | cons x xs ih => exact insByDist_sorted x _ ih

theorem mem_sortByDist_zipIdx (d : List K) (x : K) (i : Nat) :
    (x, i) ∈ sortByDist d.zipIdx ↔ d[i]? = some x :=
  (sortByDist_perm _).mem_iff.trans List.mk_mem_zipIdx_iff_getElem?

theorem knnSel_eq_take (d : List K) (k : Nat) :
    ∃ l : List Nat, l.Perm (List.range d.length) ∧ knnSel d k = l.take k :=
  ⟨(sortByDist d.zipIdx).map Prod.snd,
    by simpa [List.range_eq_range'] using (sortByDist_perm d.zipIdx).map Prod.snd, List.map_take⟩

end Knn

end UxVerif.Slice
