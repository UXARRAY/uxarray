/-
  UxVerif.Lemmas.C03Transport — incidence transport: manifoldness is inherited by sub-meshes.

  Statement in words.  Take a mesh given by its face-edge table `(FE, N, nEdge)` (C03's input) and
  carve a sub-mesh out of it: pick a duplicate-free list `idx` of faces, pick the duplicate-free list
  `es` of exactly those edges that some picked face uses, and renumber: sub-face `i` is source face
  `idx[i]`, sub-edge `k` is source edge `es[k]` (`SubMesh`).  Nothing is assumed about the order of `idx`
  or `es`, about padding layout, or about how the renumbering `ren` behaves off `es`.  Then

  * every (face, slot) place that sub-edge `k` occupies in the sub-mesh is a place its source edge `es[k]`
    occupies in a SELECTED source face (`incidence_sub_eq`), so the sub-edge occupies no more places than
    the source edge does (`incidence_sub_le`), and at least one (`incidence_sub_pos`);
  * hence "every edge lies in at most two face slots" passes from the source to the sub-mesh
    (`manifold_sub`), and C03's whole precondition `Incidence.Pre` for the sub-mesh is a THEOREM once it
    holds for the source (`pre_sub`): it need not be assumed separately for the subset;
  * "the two faces listed for an edge are distinct" is the same as "no face lists an edge twice"
    (`distinctFaces_iff_rows_nodup`), which also passes to sub-meshes (`rows_nodup_sub`,
    `distinctFaces_sub`).

  All lists are unbounded; `decide` is used only in the non-vacuity `example`s.  The property-level
  statements are `Props/C03.lean`'s `sub_*` theorems; this file is their proofs.  Uses Mathlib
  (`List.Nodup.getElem_inj_iff`, and `Lemmas/Handshake.lean`): not linked into the drivers.
-/
import Mathlib.Data.List.Nodup
import UxVerif.Lemmas.Handshake
import UxVerif.Lemmas.Incidence

namespace UxVerif.Incidence
open UxVerif

/-- sub-mesh `(FE', N', nEdge')` of `(FE, N, nEdge)`: face `i` of the sub-mesh is source face `idx[i]` with its
    real edges renumbered by `ren`; sub-edge `k` is source edge `es[k]` -/
structure SubMesh (FE : Table) (N : List Nat) (FE' : Table) (N' : List Nat) (nEdge' : Nat)
    (idx : List Nat) (es : List Int) (ren : Int → Int) : Prop where
  /-- one sub-face per selected face -/
  faces     : FE'.length = idx.length
  /-- injective face map -/
  idx_nodup : idx.Nodup
  idx_lt    : ∀ f ∈ idx, f < FE.length
  es_len    : es.length = nEdge'
  /-- injective edge map -/
  es_nodup  : es.Nodup
  /-- the real edges of sub-face `i` are the renumbered real edges of source face `idx[i]` -/
  rows      : ∀ i (hi : i < idx.length), faceEdgesOf FE' N' i = (faceEdgesOf FE N idx[i]).map ren
  /-- selected edge number `k` is renumbered to `k` -/
  ren_es    : ∀ k (hk : k < es.length), ren es[k] = Int.ofNat k
  /-- every real edge of a selected face is selected -/
  covered   : ∀ f ∈ idx, ∀ x ∈ faceEdgesOf FE N f, x ∈ es
  /-- every selected edge is a real edge of a selected face -/
  used      : ∀ e ∈ es, ∃ f ∈ idx, e ∈ faceEdgesOf FE N f

/-! ### incidence as a sum over faces -/

/-- the number of (face, slot) places of edge `e` is the sum, over all faces, of the number of slots of that
    face holding `e` -/
theorem incidence_eq_sum (FE : Table) (N : List Nat) (e : Nat) :
    incidence FE N e
      = ((List.range FE.length).map
          (fun f => (faceEdgesOf FE N f).countP (fun y => y.toNat == e))).sum := by
  rw [incidence, feed_efEvents, length_fedFaces]

section Sub
variable {FE FE' : Table} {N N' : List Nat} {nEdge' : Nat}
  {idx : List Nat} {es : List Int} {ren : Int → Int}

/-- on selected edges, "is renumbered to `k`" means "is source edge `es[k]`" -/
theorem SubMesh.ren_key (hS : SubMesh FE N FE' N' nEdge' idx es ren) {x : Int} (hx : x ∈ es)
    {k : Nat} (hk : k < es.length) : (ren x).toNat = k ↔ x = es[k] := by
  obtain ⟨j, hj, rfl⟩ := List.getElem_of_mem hx
  rw [hS.ren_es j hj, hS.es_nodup.getElem_inj_iff]
  simp

/-- an entry of a sub-face row is the new number of a selected edge -/
theorem SubMesh.mem_row (hS : SubMesh FE N FE' N' nEdge' idx es ren) {i : Nat} (hi : i < idx.length)
    {e : Int} (he : e ∈ faceEdgesOf FE' N' i) :
    ∃ j, ∃ hj : j < es.length, e = Int.ofNat j ∧ es[j] ∈ faceEdgesOf FE N idx[i] := by
  rw [hS.rows i hi] at he
  obtain ⟨x, hx, rfl⟩ := List.mem_map.mp he
  obtain ⟨j, hj, rfl⟩ := List.getElem_of_mem (hS.covered _ (List.getElem_mem hi) x hx)
  exact ⟨j, hj, hS.ren_es j hj, hx⟩

/-- sub-edge `k` is an edge of sub-face `i` iff source edge `es[k]` is an edge of source face `idx[i]` -/
theorem subMesh_mem_iff (hS : SubMesh FE N FE' N' nEdge' idx es ren) {i k : Nat}
    (hi : i < idx.length) (hk : k < es.length) :
    Int.ofNat k ∈ faceEdgesOf FE' N' i ↔ es[k] ∈ faceEdgesOf FE N idx[i] := by
  rw [hS.rows i hi]
  constructor
  · intro hm
    obtain ⟨x, hx, hxk⟩ := List.mem_map.mp hm
    obtain ⟨j, hj, rfl⟩ := List.getElem_of_mem (hS.covered _ (List.getElem_mem hi) x hx)
    rw [hS.ren_es j hj] at hxk
    have : j = k := Int.ofNat.inj hxk
    subst this
    exact hx
  · intro hm
    exact List.mem_map.mpr ⟨_, hm, hS.ren_es k hk⟩

/-- every face-slot incidence of sub-edge `k` is an incidence of its source edge `es[k]` in a SELECTED
    source face -/
theorem incidence_sub_eq (hS : SubMesh FE N FE' N' nEdge' idx es ren) {k : Nat} (hk : k < nEdge') :
    incidence FE' N' k
      = (idx.map (fun f => (faceEdgesOf FE N f).count (es[k]'(hS.es_len ▸ hk)))).sum := by
  have hk' : k < es.length := hS.es_len ▸ hk
  rw [incidence_eq_sum, hS.faces]
  congr 1
  apply map_range_eq_map
  intro i hi
  rw [hS.rows i hi, List.countP_map, List.count_eq_countP]
  apply List.countP_congr
  intro x hx
  have hxs : x ∈ es := hS.covered _ (List.getElem_mem hi) x hx
  simp only [Function.comp, beq_iff_eq]
  exact hS.ren_key hxs hk'

/-- a sub-edge occupies at most as many (face, slot) places as its source edge (no assumption on the
    source beyond `SubMesh`: an occurrence of `es[k]` is in particular an event with key `es[k].toNat`) -/
theorem incidence_sub_le (hS : SubMesh FE N FE' N' nEdge' idx es ren) {k : Nat} (hk : k < nEdge') :
    incidence FE' N' k ≤ incidence FE N (es[k]'(hS.es_len ▸ hk)).toNat := by
  rw [incidence_sub_eq hS hk, incidence_eq_sum]
  exact Nat.le_trans
    (sum_map_le_sum_map _ _ (fun f _ => count_le_countP_toNat (faceEdgesOf FE N f) _))
    (sum_map_le_range _ hS.idx_nodup hS.idx_lt)

/-- every sub-edge lies in at least one sub-face -/
theorem incidence_sub_pos (hS : SubMesh FE N FE' N' nEdge' idx es ren) {k : Nat} (hk : k < nEdge') :
    1 ≤ incidence FE' N' k := by
  have hk' : k < es.length := hS.es_len ▸ hk
  rw [incidence_sub_eq hS hk]
  obtain ⟨f, hf, hm⟩ := hS.used _ (List.getElem_mem hk')
  exact Nat.le_trans (List.count_pos_iff.mpr hm)
    (le_sum_map_of_mem (fun f => (faceEdgesOf FE N f).count es[k]) hf)

/-- manifoldness is inherited: if no source edge lies in more than two face slots, no sub-edge does -/
theorem manifold_sub {nEdge : Nat} (hS : SubMesh FE N FE' N' nEdge' idx es ren)
    (hman : ∀ e, e < nEdge → incidence FE N e ≤ 2) (hes : ∀ e ∈ es, e.toNat < nEdge) :
    ∀ k, k < nEdge' → incidence FE' N' k ≤ 2 := by
  intro k hk
  have hk' : k < es.length := hS.es_len ▸ hk
  exact Nat.le_trans (incidence_sub_le hS hk) (hman _ (hes _ (List.getElem_mem hk')))

/-- the same, with the bound on the selected edges derived from validity of the source's real entries -/
theorem manifold_sub_of_valid {nEdge : Nat} (hS : SubMesh FE N FE' N' nEdge' idx es ren)
    (hval : ∀ f, f < FE.length → ∀ e ∈ faceEdgesOf FE N f, 0 ≤ e ∧ e < nEdge)
    (hman : ∀ e, e < nEdge → incidence FE N e ≤ 2) :
    ∀ k, k < nEdge' → incidence FE' N' k ≤ 2 := by
  refine manifold_sub hS hman ?_
  intro e he
  obtain ⟨f, hf, hm⟩ := hS.used e he
  have := hval f (hS.idx_lt f hf) e hm
  exact (Int.toNat_lt this.1).mpr this.2

/-- real entries of the sub-mesh's face-edge table are valid sub-edge numbers -/
theorem entries_sub (hS : SubMesh FE N FE' N' nEdge' idx es ren) :
    ∀ f, f < FE'.length → ∀ e ∈ faceEdgesOf FE' N' f, 0 ≤ e ∧ e < nEdge' := by
  intro f hf e he
  obtain ⟨j, hj, rfl, _⟩ := hS.mem_row (hS.faces ▸ hf) he
  have : j < nEdge' := hS.es_len ▸ hj
  exact ⟨Int.natCast_nonneg j, Int.ofNat_lt.mpr this⟩

/-- C03's precondition is inherited by sub-meshes: valid entries and "every edge in one or two face
    slots" for the source give the same for every sub-mesh; only the facts about the sub-mesh's own
    face-node table (`hlen`, `hnodes`) remain to be supplied -/
theorem pre_sub {n n' nEdge : Nat} {t t' : Table}
    (hP : Pre n t FE N nEdge) (hS : SubMesh FE N FE' N' nEdge' idx es ren)
    (hlen : FE'.length = t'.length)
    (hnodes : ∀ f, f < t'.length → ∀ v ∈ real (rowAt t' f), 0 ≤ v ∧ v < n') :
    Pre n' t' FE' N' nEdge' :=
  ⟨hlen, entries_sub hS,
    fun k hk => ⟨incidence_sub_pos hS hk,
      manifold_sub_of_valid hS hP.valid (fun _ he => (hP.manifold he).2) k hk⟩,
    hnodes⟩

end Sub

/-! ### non-vacuity: two triangles sharing edge 1, plus an isolated triangle (C03's example mesh) -/
section Examples

/-- keep only face 1: its edges `1, 3, 4` become `0, 1, 2` -/
private def ren1 : Int → Int :=
  fun x => if x = 1 then 0 else if x = 3 then 1 else if x = 4 then 2 else FILL

/-- the hypotheses of `pre_sub` can be met (a `SubMesh` exists), and `pre_sub` instantiated on it: the
    sub-mesh's precondition is obtained from the source's -/
example :
    SubMesh [[0, 1, 2], [1, 3, 4], [5, 6, 7]] [3, 3, 3] [[0, 1, 2]] [3] 3 [1] [1, 3, 4] ren1 ∧
    Pre 4 [[2, 1, 3]] [[0, 1, 2]] [3] 3 := by
  have hS : SubMesh [[0, 1, 2], [1, 3, 4], [5, 6, 7]] [3, 3, 3] [[0, 1, 2]] [3] 3 [1] [1, 3, 4] ren1 :=
    { faces := by decide +kernel, idx_nodup := by decide +kernel, idx_lt := by decide +kernel, es_len := by decide +kernel,
      es_nodup := by decide +kernel, rows := by decide +kernel, ren_es := by decide +kernel, covered := by decide +kernel,
      used := by decide +kernel }
  exact ⟨hS, pre_sub (n := 7) (t := [[0, 1, 2], [2, 1, 3], [4, 5, 6]]) (nEdge := 8) (by decide +kernel) hS
    (by decide +kernel) (by decide +kernel)⟩

/-- the inequality of `incidence_sub_le` can be strict: source edge 1 lies in two faces, its image (sub-edge
    0) in one, because the other face was not selected -/
example : incidence [[0, 1, 2], [1, 3, 4], [5, 6, 7]] [3, 3, 3] 1 = 2 ∧
    incidence [[0, 1, 2]] [3] 0 = 1 := by decide +kernel

/-- keep faces 2 and 0, in that order (reordered, not adjacent); selected edges in sorted order -/
private def ren20 : Int → Int :=
  fun x => if x = 0 then 0 else if x = 1 then 1 else if x = 2 then 2
    else if x = 5 then 3 else if x = 6 then 4 else if x = 7 then 5 else FILL

/-- the sub-mesh of faces 2 and 0 of the example mesh, used by the examples below -/
private theorem subMesh20 :
    SubMesh [[0, 1, 2], [1, 3, 4], [5, 6, 7]] [3, 3, 3] [[3, 4, 5], [0, 1, 2]] [3, 3] 6 [2, 0]
      [0, 1, 2, 5, 6, 7] ren20 :=
  { faces := by decide +kernel, idx_nodup := by decide +kernel, idx_lt := by decide +kernel,
    es_len := by decide +kernel, es_nodup := by decide +kernel, rows := by decide +kernel,
    ren_es := by decide +kernel, covered := by decide +kernel, used := by decide +kernel }

/-- … a `SubMesh` exists, and `pre_sub` instantiated on it -/
example :
    SubMesh [[0, 1, 2], [1, 3, 4], [5, 6, 7]] [3, 3, 3] [[3, 4, 5], [0, 1, 2]] [3, 3] 6 [2, 0]
      [0, 1, 2, 5, 6, 7] ren20 ∧
    Pre 6 [[3, 4, 5], [0, 1, 2]] [[3, 4, 5], [0, 1, 2]] [3, 3] 6 := by
  have hS := subMesh20
  exact ⟨hS, pre_sub (n := 7) (t := [[0, 1, 2], [2, 1, 3], [4, 5, 6]]) (nEdge := 8) (by decide +kernel) hS
    (by decide +kernel) (by decide +kernel)⟩

/-- `SubMesh` is not trivially true: dropping a used edge from `es` (here edge 4) violates `covered` -/
example : ¬ SubMesh [[0, 1, 2], [1, 3, 4], [5, 6, 7]] [3, 3, 3] [[0, 1, 2]] [3] 2 [1] [1, 3] ren1 :=
  fun h => absurd (h.covered 1 (by decide +kernel) 4 (by decide +kernel)) (by decide +kernel)

/-- … and the conclusion is not trivially true: a sub-table whose edge 0 is listed by three faces is not
    manifold -/
example : ¬ Pre 3 [[0, 1, 2], [0, 1, 2], [0, 1, 2]] [[0, 1, 2], [0, 3, 4], [0, 5, 6]] [3, 3, 3] 7 := by
  decide +kernel

end Examples

/-! ### "the two faces of an edge are distinct" = "no face lists an edge twice", and its inheritance -/

section Distinct
variable {n nEdge : Nat} {t FE : Table} {N : List Nat}

/-- the two slots of every row of `edge_face_connectivity` differ iff every edge is fed distinct faces -/
theorem distinctFaces_iff_feed_nodup
    (h0 : ∀ f, f < FE.length → ∀ y ∈ faceEdgesOf FE N f, 0 ≤ y)
    (hman : ∀ e, e < nEdge → 1 ≤ incidence FE N e ∧ incidence FE N e ≤ 2) :
    (∀ p ∈ edgeFace FE N nEdge, p.1 ≠ p.2)
      ↔ ∀ e, e < nEdge → (feed (efEvents FE N) e).Nodup := by
  have hslot : ∀ e, e < nEdge →
      (((edgeFace FE N nEdge).getD e (FILL, FILL)).1 ≠ ((edgeFace FE N nEdge).getD e (FILL, FILL)).2
        ↔ (feed (efEvents FE N) e).Nodup) := by
    intro e he
    rcases edgeFace_cases h0 he (hman e he) with ⟨fa, hl, hrow⟩ | ⟨fa, fb, _, hl, hrow⟩
    · rw [hl, hrow]
      exact iff_of_true (ofNat_ne_fill fa) (List.nodup_singleton _)
    · rw [hl, hrow]
      simp
  constructor
  · intro h e he
    refine (hslot e he).mp (h _ ?_)
    rw [List.getD_eq_getElem?_getD, List.getElem?_eq_getElem (by rw [edgeFace_length]; exact he)]
    exact List.getElem_mem _
  · intro h p hp
    obtain ⟨e, he, rfl⟩ := edgeFace_mem hp
    exact (hslot e he).mpr (h e he)

/-- an edge gets the same face in both slots iff that face lists the edge twice: the two faces of every
    edge are distinct iff every face's real edges are pairwise distinct -/
theorem distinctFaces_iff_rows_nodup
    (hval : ∀ f, f < FE.length → ∀ e ∈ faceEdgesOf FE N f, 0 ≤ e ∧ e < nEdge)
    (hman : ∀ e, e < nEdge → 1 ≤ incidence FE N e ∧ incidence FE N e ≤ 2) :
    (∀ p ∈ edgeFace FE N nEdge, p.1 ≠ p.2)
      ↔ (∀ f, f < FE.length → (faceEdgesOf FE N f).Nodup) := by
  have h0 : ∀ f, f < FE.length → ∀ y ∈ faceEdgesOf FE N f, 0 ≤ y :=
    fun f hf y hy => (hval f hf y hy).1
  rw [distinctFaces_iff_feed_nodup h0 hman]
  constructor
  · intro h f hf
    rw [row_nodup_iff (hval f hf)]
    intro e he
    exact (feed_nodup_iff h0 e).mp (h e he) f hf
  · intro h e he
    rw [feed_nodup_iff h0 e]
    intro f hf
    exact (row_nodup_iff (hval f hf)).mp (h f hf) e he

end Distinct

section DistinctSub
variable {FE FE' : Table} {N N' : List Nat} {nEdge' : Nat}
  {idx : List Nat} {es : List Int} {ren : Int → Int}

/-- "no face lists an edge twice" is inherited: the renumbering is injective on the selected edges -/
theorem rows_nodup_sub (hS : SubMesh FE N FE' N' nEdge' idx es ren)
    (hnd : ∀ f ∈ idx, (faceEdgesOf FE N f).Nodup) :
    ∀ i, i < FE'.length → (faceEdgesOf FE' N' i).Nodup := by
  intro i hi
  have hi' : i < idx.length := hS.faces ▸ hi
  have hmem := List.getElem_mem hi'
  rw [hS.rows i hi']
  unfold List.Nodup
  rw [List.pairwise_map]
  refine List.Pairwise.imp_of_mem ?_ (hnd _ hmem)
  intro a b ha hb hab heq
  have has := hS.covered _ hmem a ha
  obtain ⟨j, hj, rfl⟩ := List.getElem_of_mem (hS.covered _ hmem b hb)
  apply hab
  refine (hS.ren_key has hj).mp ?_
  rw [heq, hS.ren_es j hj]
  simp

/-- "the two faces of an edge are distinct" is inherited by sub-meshes (nothing about the sub-mesh's
    face-node table is needed) -/
theorem distinctFaces_sub {n nEdge : Nat} {t : Table}
    (hP : Pre n t FE N nEdge) (hS : SubMesh FE N FE' N' nEdge' idx es ren)
    (hD : ∀ p ∈ edgeFace FE N nEdge, p.1 ≠ p.2) :
    ∀ p ∈ edgeFace FE' N' nEdge', p.1 ≠ p.2 := by
  refine (distinctFaces_iff_rows_nodup (entries_sub hS) fun k hk => ⟨incidence_sub_pos hS hk,
    manifold_sub_of_valid hS hP.valid (fun _ he => (hP.manifold he).2) k hk⟩).mpr
    (rows_nodup_sub hS ?_)
  intro f hf
  exact (distinctFaces_iff_rows_nodup hP.valid fun _ he => hP.manifold he).mp hD f
    (hS.idx_lt f hf)

end DistinctSub

/-! ### non-vacuity of the distinct-faces part -/
section Examples2

/-- both sides of `distinctFaces_iff_rows_nodup` hold on the example mesh … -/
example : (∀ p ∈ edgeFace [[0, 1, 2], [1, 3, 4], [5, 6, 7]] [3, 3, 3] 8, p.1 ≠ p.2) ∧
    (∀ f, f < 3 → (faceEdgesOf [[0, 1, 2], [1, 3, 4], [5, 6, 7]] [3, 3, 3] f).Nodup) := by decide +kernel

/-- … and both fail on a mesh meeting `Pre` whose face 0 lists edge 0 twice -/
example : Pre 3 [[0, 1, 2]] [[0, 0, 1]] [3] 2 ∧
    ¬ (∀ p ∈ edgeFace [[0, 0, 1]] [3] 2, p.1 ≠ p.2) ∧
    ¬ (∀ f, f < 1 → (faceEdgesOf [[0, 0, 1]] [3] f).Nodup) := by decide +kernel

/-- `distinctFaces_sub` instantiated on the reordered two-face subset -/
example : ∀ p ∈ edgeFace [[3, 4, 5], [0, 1, 2]] [3, 3] 6, p.1 ≠ p.2 := by
  have hS := subMesh20
  exact distinctFaces_sub (n := 7) (t := [[0, 1, 2], [2, 1, 3], [4, 5, 6]]) (nEdge := 8) (by decide +kernel) hS
    (by decide +kernel)

end Examples2

end UxVerif.Incidence
