/-
  Lemmas for C07, UGRID half of Model/Encode.lean: the topology dictionary and the induction
  principle for `topoOf` (`topoOf_induction`), the variables and `.encoding` of the export, the
  start index (`minNonFill_after_shift`).  Core Lean only.
-/
import UxVerif.Model.Encode

namespace UxVerif.Encode
open UxVerif

/-! ## the topology dictionary -/

theorem mem_setKey {t : Topo} {k : String} {v : List String} {e : String × List String}
    (h : e ∈ setKey t k v) : e ∈ t ∨ e = (k, v) := by
  unfold setKey at h
  split at h
  · rcases List.mem_map.mp h with ⟨a, ha, rfl⟩
    split
    · right; rfl
    · left; exact ha
  · rcases List.mem_append.mp h with h | h
    · left; exact h
    · right; exact List.mem_singleton.mp h

theorem lookupKey_none_of_not_any (t : Topo) (k : String) (h : t.any (fun e => e.1 == k) = false) :
    lookupKey t k = none := by
  unfold lookupKey
  rw [Option.map_eq_none_iff, List.find?_eq_none]
  intro e he
  simpa using List.any_eq_false.mp h e he

theorem lookupKey_setKey (t : Topo) (k : String) (v : List String) (k' : String) :
    lookupKey (setKey t k v) k' = if k' = k then some v else lookupKey t k' := by
  unfold setKey lookupKey
  cases hany : t.any (fun e => e.1 == k) with
  | true =>
    -- overwriting in place leaves every key where it was
    have hkeys : ((fun e : String × List String => e.1 == k') ∘ fun e => if e.1 == k then (k, v) else e)
        = fun e => e.1 == k' := by
      funext e
      by_cases h : e.1 = k <;> simp [h]
    rw [if_pos rfl, List.find?_map, hkeys]
    cases hf : t.find? (fun e => e.1 == k') with
    | none =>
      obtain ⟨e, he, hek⟩ := List.any_eq_true.mp hany
      have hk : k' ≠ k := fun h => by
        have := List.find?_eq_none.mp hf e he
        rw [h] at this
        exact this hek
      simp [hk]
    | some e =>
      have he : e.1 = k' := by simpa using List.find?_some hf
      by_cases hk : k' = k <;> simp [he, hk]
  | false =>
    have hnone : t.find? (fun e => e.1 == k) = none :=
      Option.map_eq_none_iff.mp (lookupKey_none_of_not_any t k hany)
    rw [if_neg Bool.false_ne_true, List.find?_append]
    by_cases hk : k' = k
    · simp [hk, hnone]
    · have : (k == k') = false := by simpa using fun h => hk h.symm
      simp [hk, this]

theorem closedIn_setKey {t : Topo} {vs : List Var} {k : String} {v : List String}
    (ht : ClosedIn t vs) (hv : ∀ n ∈ v, n ∈ varNames vs ∨ n ∈ varDims vs) :
    ClosedIn (setKey t k v) vs := by
  intro e he hk n hn
  rcases mem_setKey he with h | h
  · exact ht e h hk n hn
  · subst h; exact hv n hn

theorem closedIn_mono {t : Topo} {vs ws : List Var} (h : ClosedIn t vs)
    (hn : ∀ n ∈ varNames vs, n ∈ varNames ws) (hd : ∀ n ∈ varDims vs, n ∈ varDims ws) :
    ClosedIn t ws :=
  fun e he hk n hx => (h e he hk n hx).imp (hn n) (hd n)

/-- the assignments `topo[k] = v` that `_encode_ugrid` performs for a dataset with variables `vs` -/
inductive Assigned (vs : List Var) : String → List String → Prop
  | edgeDim : "n_edge" ∈ varDims vs → Assigned vs "edge_dimension" ["n_edge"]
  | faceCoords : "face_lon" ∈ varNames vs → Assigned vs "face_coordinates" ["face_lon", "face_lat"]
  | edgeCoords : "edge_lon" ∈ varNames vs → Assigned vs "edge_coordinates" ["edge_lon", "edge_lat"]
  | conn (c : String) : c ∈ Gen.Conv.CONNECTIVITY_NAMES → c ∈ varNames vs → Assigned vs c [c]

/-- to prove `Q (topoOf tmpl vs)`: `Q tmpl`, and every assignment the encoder can make preserves `Q` -/
theorem topoOf_induction {Q : Topo → Prop} {tmpl : Topo} {vs : List Var} (h0 : Q tmpl)
    (hset : ∀ t k v, Assigned vs k v → Q t → Q (setKey t k v)) : Q (topoOf tmpl vs) := by
  have hif : ∀ (b : Bool) (t : Topo) (k : String) (v : List String), (b = true → Assigned vs k v) →
      Q t → Q (if b = true then setKey t k v else t) := by
    intro b t k v ha ht
    cases b
    · exact ht
    · exact hset t k v (ha rfl) ht
  have hfold : ∀ cs : List String, (∀ c ∈ cs, c ∈ Gen.Conv.CONNECTIVITY_NAMES) → ∀ t, Q t →
      Q (cs.foldl (fun t c => if (varNames vs).contains c then setKey t c [c] else t) t) := by
    intro cs
    induction cs with
    | nil => intro _ t ht; exact ht
    | cons c cs ih =>
      intro hcs t ht
      exact ih (fun c' hc' => hcs c' (List.mem_cons_of_mem _ hc')) _
        (hif _ t c [c] (fun hc => .conn c (hcs c List.mem_cons_self) (List.contains_iff_mem.mp hc)) ht)
  -- through `topoOf` from its last `let` to its first
  unfold topoOf
  apply hfold _ (fun _ h => h)
  apply hif _ _ _ _ (fun h => .edgeCoords (List.contains_iff_mem.mp h))
  apply hif _ _ _ _ (fun h => .faceCoords (List.contains_iff_mem.mp h))
  exact hif _ _ _ _ (fun h => .edgeDim (List.contains_iff_mem.mp h)) h0

theorem node_coordinates_not_conn : "node_coordinates" ∉ Gen.Conv.CONNECTIVITY_NAMES := by
  simp [Gen.Conv.CONNECTIVITY_NAMES]

/-- the two entries through which `_read_ugrid` finds the payload are left as a template has them -/
theorem Assigned.payload_keys {vs : List Var} {k : String} {v : List String} (h : Assigned vs k v) :
    k ≠ "node_coordinates" ∧ (k = "face_node_connectivity" → v = ["face_node_connectivity"]) := by
  cases h with
  | edgeDim _ => exact ⟨by simp, fun h => absurd h (by simp)⟩
  | faceCoords _ => exact ⟨by simp, fun h => absurd h (by simp)⟩
  | edgeCoords _ => exact ⟨by simp, fun h => absurd h (by simp)⟩
  | conn c hc _ => exact ⟨fun h => node_coordinates_not_conn (h ▸ hc), fun h => h ▸ rfl⟩

theorem lookup_topoOf_nodeCoords (tmpl : Topo) (vs : List Var) :
    lookupKey (topoOf tmpl vs) "node_coordinates" = lookupKey tmpl "node_coordinates" :=
  topoOf_induction (Q := fun t => lookupKey t "node_coordinates" = lookupKey tmpl "node_coordinates")
    rfl fun _ _ _ ha h => by rw [lookupKey_setKey, if_neg ha.payload_keys.1.symm, h]

theorem lookup_topoOf_faceNode (tmpl : Topo) (vs : List Var)
    (h : lookupKey tmpl "face_node_connectivity" = some ["face_node_connectivity"]) :
    lookupKey (topoOf tmpl vs) "face_node_connectivity" = some ["face_node_connectivity"] :=
  topoOf_induction (Q := fun t => lookupKey t "face_node_connectivity" = some ["face_node_connectivity"])
    h fun _ _ _ ha h => by
      rw [lookupKey_setKey]
      split
      · rename_i hk; rw [ha.payload_keys.2 hk.symm]
      · exact h

/-! ## the variables of the export -/

theorem varNames_strip (vs : List Var) : varNames (vs.map Var.strip) = varNames vs := by
  simp [varNames, Var.strip, Function.comp_def]

theorem varDims_strip (vs : List Var) : varDims (vs.map Var.strip) = varDims vs := by
  simp [varDims, Var.strip, List.flatMap_map]

theorem sub_exportVars (cfg : Cfg) (vs : List Var) :
    (∀ n ∈ varNames vs, n ∈ varNames (exportVars cfg vs)) ∧
    (∀ n ∈ varDims vs, n ∈ varDims (exportVars cfg vs)) := by
  unfold exportVars; split
  · simp only [varNames, varDims, List.map_append, List.flatMap_append, List.mem_append]
    exact ⟨fun _ h => .inl h, fun _ h => .inl h⟩
  · exact ⟨fun _ h => h, fun _ h => h⟩

theorem exportVars_ensure (cfg : Cfg) (vs : List Var) (h1 : cfg.ensureLonLat = true)
    (h2 : "node_lon" ∉ varNames vs) (h3 : "node_x" ∈ varNames vs) :
    exportVars cfg vs = vs ++ lonlatVars := by
  have h2' : (varNames vs).contains "node_lon" = false :=
    Bool.eq_false_iff.mpr fun h => h2 (List.contains_iff_mem.mp h)
  simp only [exportVars, h1, h2', List.contains_iff_mem.mpr h3, Bool.not_false, Bool.and_self, if_true]

/-- "differs only by those extra variables" (`node_lon`/`node_lat` for a Cartesian-only grid) -/
theorem ugrid_export_names_dims {P} (cfg : Cfg) (tmpl : Topo) (d : Ds P) :
    varNames (encodeUgrid cfg tmpl d).1.vars = varNames (exportVars cfg d.vars) ∧
    varDims (encodeUgrid cfg tmpl d).1.vars = varDims (exportVars cfg d.vars) := by
  unfold encodeUgrid
  simp only
  split
  · exact ⟨varNames_strip _, varDims_strip _⟩
  · exact ⟨rfl, rfl⟩

theorem encodeUgrid_topo {P} (cfg : Cfg) (tmpl : Topo) (d : Ds P) :
    (encodeUgrid cfg tmpl d).1.topo = topoOf tmpl d.vars := by simp only [encodeUgrid]

theorem fncVar_mem_vars {P} (d : Ds P) : fncVar ∈ d.vars :=
  List.mem_append_right _ List.mem_cons_self

/-! ## `.encoding` -/

theorem encOf_map (g : String × List String → String × List String) (hg : ∀ p, (g p).1 = p.1)
    (e : Encodings) (name : String) :
    encOf (e.map g) name = ((e.find? (fun p => p.1 == name)).map (fun p => (g p).2)).getD [] := by
  unfold encOf
  rw [List.find?_map]
  have : ((fun p : String × List String => p.1 == name) ∘ g) = (fun p => p.1 == name) := by
    funext p; simp [Function.comp, hg p]
  rw [this]
  cases e.find? (fun p => p.1 == name) <;> rfl

theorem encOf_exportEncoding (cfg : Cfg) (vs : List Var) (e : Encodings) (name : String) :
    encOf (exportEncoding cfg vs e) name =
      if cfg.dropStaleEncoding = true ∧ hasFillAttr vs name = true
      then (encOf e name).filter (fun k => !staleKeys.contains k) else encOf e name := by
  unfold exportEncoding
  cases hc : cfg.dropStaleEncoding with
  | false => simp
  | true =>
    rw [if_pos rfl, encOf_map _ (fun p => by split <;> rfl)]
    unfold encOf
    cases hf : e.find? (fun p => p.1 == name) with
    | none => simp
    | some p =>
      have hpn : p.1 = name := by simpa using List.find?_some hf
      simp only [Option.map_some, Option.getD_some, hpn, true_and]
      split <;> rfl

theorem exportEncoding_spec (cfg : Cfg) (vs : List Var) (e : Encodings) (name k : String)
    (hk : k ∈ encOf (exportEncoding cfg vs e) name) :
    k ∈ encOf e name ∧ (cfg.dropStaleEncoding = true → hasFillAttr vs name = true → k ∉ staleKeys) := by
  rw [encOf_exportEncoding] at hk
  split at hk
  · obtain ⟨h1, h2⟩ := List.mem_filter.mp hk
    exact ⟨h1, fun _ _ hst => by simp [hst] at h2⟩
  · rename_i h
    exact ⟨hk, fun hd hfa => absurd ⟨hd, hfa⟩ h⟩

/-! ## the start index -/

theorem shiftTable_zero (t : Table) : shiftTable 0 t = t :=
  List.map_id'' (fun r => List.map_id'' (fun x => by split <;> omega) r) t

theorem minList_eq_min? : ∀ l : List Int, Readers.minList l = l.min?
  | [] => rfl
  | [x] => by simp [Readers.minList]
  | x :: y :: l => by
    have ih := minList_eq_min? (y :: l)
    rw [Readers.minList, ih, List.min?_cons (xs := y :: l)]
    cases h : (y :: l).min? with
    | none => simp at h
    | some m =>
      simp only [Option.elim]
      by_cases hx : x ≤ m <;> simp [hx, Int.min_def]

theorem minNonFill_eq (t : Table) : minNonFill t = Readers.minList (Readers.nonFill t) := by
  unfold minNonFill Readers.nonFill; rw [minList_eq_min?]

theorem shiftTable_eq (a : Int) (t : Table) : shiftTable a t = Readers.shift a t := rfl

theorem flatten_shiftTable (a : Int) (t : Table) :
    (shiftTable a t).flatten = t.flatten.map (fun x => if x = FILL then FILL else x - a) :=
  List.map_flatten.symm

theorem mem_nonFill_shift {a b : Int} {t : Table}
    (hb : b ∈ (shiftTable a t).flatten.filter (· != FILL)) :
    ∃ y ∈ t.flatten.filter (· != FILL), b = y - a := by
  rw [flatten_shiftTable, List.mem_filter, List.mem_map] at hb
  obtain ⟨⟨y, hy, rfl⟩, hb2⟩ := hb
  by_cases hyf : y = FILL
  · simp [hyf] at hb2
  · exact ⟨y, List.mem_filter.mpr ⟨hy, by simpa using hyf⟩, by simp [hyf]⟩

/-- after subtracting the smallest real entry, the smallest real entry is `0` (or there is none) -/
theorem minNonFill_after_shift (t : Table) :
    (minNonFill (shiftTable ((minNonFill t).getD 0) t)).getD 0 = 0 := by
  unfold minNonFill
  cases hm : (t.flatten.filter (· != FILL)).min? with
  | none => rw [Option.getD_none, shiftTable_zero, hm]; rfl
  | some a =>
    obtain ⟨hmem, hle⟩ := List.min?_eq_some_iff.mp hm
    have key : ((shiftTable a t).flatten.filter (· != FILL)).min? = some 0 := by
      rw [List.min?_eq_some_iff]
      constructor
      · obtain ⟨ha, hne⟩ := List.mem_filter.mp hmem
        have hne : a ≠ FILL := by simpa using hne
        rw [flatten_shiftTable]
        exact List.mem_filter.mpr ⟨List.mem_map.mpr ⟨a, ha, by simp [hne]⟩, by decide⟩
      · intro b hb
        obtain ⟨y, hy, rfl⟩ := mem_nonFill_shift hb
        have := hle y hy
        omega
    rw [Option.getD_some, key]; rfl

end UxVerif.Encode
