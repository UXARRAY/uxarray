/-
  The reference heap of `Model/Heap.lean` (C19).  Every action is one `upd` of an own cell
  (`applyAct_cases`), so it leaves a separated object alone (`act_preserves`, `runActs_preserves`).
  Every allocator and `dup` append a `Block`; `block_fresh` gives `Inv` between an old object and
  the new one, and the frame of the old heap.
-/
import UxVerif.Model.Heap

namespace UxVerif.Heap

/-! ### reachability, frames -/

theorem reach_closed {h : Heap} {r : Nat} (S : Nat → Prop) (h0 : S r)
    (hs : ∀ a, S a → ∀ b ∈ succs h a, S b) : ∀ {x}, Reach h r x → S x := by
  intro x hx
  induction hx with
  | refl => exact h0
  | step _ hb ih => exact hs _ ih _ hb

theorem reach_trans {h : Heap} {r a x : Nat} (h1 : Reach h r a) (h2 : Reach h a x) : Reach h r x := by
  induction h2 with
  | refl => exact h1
  | step _ hb ih => exact Reach.step ih hb

theorem cell_lt {h : Heap} {a : Nat} {c : Cell} (hc : h[a]? = some c) : a < h.length :=
  (List.getElem?_eq_some_iff.mp hc).1

theorem mem_succs {h : Heap} {a b : Nat} :
    b ∈ succs h a ↔ ∃ c, h[a]? = some c ∧ ∃ k, (k, b) ∈ c.refs := by
  unfold succs
  cases h[a]? with
  | none => simp
  | some c => simp

theorem succs_lt {h : Heap} {a b : Nat} (hb : b ∈ succs h a) : a < h.length := by
  obtain ⟨c, hc, _⟩ := mem_succs.mp hb
  exact cell_lt hc

theorem wf_cell {h : Heap} (wf : WF h) {a : Nat} {c : Cell} (hc : h[a]? = some c) :
    ∀ p ∈ c.refs, p.2 < h.length :=
  fun p hp => wf a p.2 (mem_succs.mpr ⟨c, hc, p.1, hp⟩)

theorem reach_lt {h : Heap} {r : Nat} (wf : WF h) (hr : r < h.length) :
    ∀ {x}, Reach h r x → x < h.length :=
  reach_closed (fun x => x < h.length) hr (fun a _ b hb => wf a b hb)

theorem succs_congr {h h' : Heap} {a : Nat} (e : h'[a]? = h[a]?) : succs h' a = succs h a := by
  unfold succs; rw [e]

theorem frame_reach {h h' : Heap} {r : Nat} (fr : Frame h h' r) {x : Nat} :
    Reach h' r x ↔ Reach h r x := by
  constructor
  · intro hx
    induction hx with
    | refl => exact Reach.refl
    | step _ hb ih => rw [succs_congr (fr _ ih)] at hb; exact Reach.step ih hb
  · intro hx
    induction hx with
    | refl => exact Reach.refl
    | step ha hb ih => rw [← succs_congr (fr _ ha)] at hb; exact Reach.step ih hb

theorem frame_refl (h : Heap) (r : Nat) : Frame h h r := fun _ _ => rfl

theorem frame_trans {h h1 h2 : Heap} {r : Nat} (f1 : Frame h h1 r) (f2 : Frame h1 h2 r) :
    Frame h h2 r := by
  intro x hx
  rw [f2 x ((frame_reach f1).mpr hx), f1 x hx]

theorem look_mem {k b : Nat} : ∀ {l : List (Nat × Nat)}, look k l = some b → (k, b) ∈ l
  | [], e => by simp [look] at e
  | (k', b') :: l, e => by
    unfold look at e
    split at e
    · next hk => cases e; subst hk; simp
    · exact List.mem_cons_of_mem _ (look_mem e)

theorem field_mem {h : Heap} {a k b : Nat} (e : field h a k = some b) :
    ∃ c, h[a]? = some c ∧ (k, b) ∈ c.refs := by
  unfold field at e
  cases hc : h[a]? with
  | none => simp [hc] at e
  | some c => rw [hc] at e; exact ⟨c, rfl, look_mem e⟩

theorem field_succs {h : Heap} {a k b : Nat} (e : field h a k = some b) : b ∈ succs h a := by
  obtain ⟨c, hc, hm⟩ := field_mem e
  exact mem_succs.mpr ⟨c, hc, k, hm⟩

theorem follow_cons {h : Heap} {a k t : Nat} {p : Path} (e : follow h a (k :: p) = some t) :
    ∃ b, field h a k = some b ∧ follow h b p = some t := by
  unfold follow at e
  cases hf : field h a k with
  | none => simp [hf] at e
  | some b => rw [hf] at e; exact ⟨b, rfl, e⟩

theorem follow_reach {h : Heap} : ∀ {p : Path} {r a : Nat}, follow h r p = some a → Reach h r a
  | [], r, a, e => by cases e; exact Reach.refl
  | k :: p, r, a, e => by
    obtain ⟨b, hf, e'⟩ := follow_cons e
    exact reach_trans (Reach.step Reach.refl (field_succs hf)) (follow_reach e')

-- one conjunction: what `frameJ` tests, and one evaluation on a concrete heap
theorem not_frame_of_follow {h h' : Heap} {r : Nat} (p : Path) (x : Nat)
    (hw : follow h r p = some x ∧ h'[x]? ≠ h[x]?) : ¬ Frame h h' r :=
  fun fr => hw.2 (fr x (follow_reach hw.1))

theorem field_new (h : Heap) (c : Cell) (k : Nat) : field (h ++ [c]) h.length k = look k c.refs := by
  unfold field
  rw [List.getElem?_concat_length]

theorem resolveKids_mem {h : Heap} {r : Nat} :
    ∀ {kids : List (Nat × Path)} {p : Nat × Nat}, p ∈ resolveKids h r kids →
      ∃ q, (p.1, q) ∈ kids ∧ follow h r q = some p.2
  | [], p, hp => by simp [resolveKids] at hp
  | (k, q) :: l, p, hp => by
    have tl : p ∈ resolveKids h r l → ∃ q', (p.1, q') ∈ (k, q) :: l ∧ follow h r q' = some p.2 :=
      fun hp => (resolveKids_mem hp).imp fun q' hq => ⟨List.mem_cons_of_mem _ hq.1, hq.2⟩
    unfold resolveKids at hp
    cases hf : follow h r q with
    | none => rw [hf] at hp; exact tl hp
    | some b =>
      simp only [hf, List.mem_cons] at hp
      rcases hp with rfl | hp
      · exact ⟨q, by simp, hf⟩
      · exact tl hp

/-! ### `Inv`, `upd` -/

/-- invariant of two live objects: no dangling references, valid roots, no shared cell -/
def Inv (h : Heap) (r s : Nat) : Prop := WF h ∧ r < h.length ∧ s < h.length ∧ Sep h r s

theorem Inv.wf {h : Heap} {r s : Nat} (i : Inv h r s) : WF h := i.1
theorem Inv.left {h : Heap} {r s : Nat} (i : Inv h r s) : r < h.length := i.2.1
theorem Inv.right {h : Heap} {r s : Nat} (i : Inv h r s) : s < h.length := i.2.2.1
theorem Inv.sep {h : Heap} {r s : Nat} (i : Inv h r s) : Sep h r s := i.2.2.2

theorem inv_symm {h : Heap} {r s : Nat} (i : Inv h r s) : Inv h s r :=
  ⟨i.wf, i.right, i.left, fun x a b => i.sep x b a⟩

theorem getElem?_upd_low {h : Heap} {a x : Nat} {c' : Cell} {ext : List Cell}
    (hx : x < h.length) (hne : x ≠ a) : (upd h a c' ext)[x]? = h[x]? := by
  unfold upd
  rw [List.getElem?_append_left (by simpa using hx), List.getElem?_set_ne (Ne.symm hne)]

theorem getElem?_upd_at {h : Heap} {a : Nat} {c' : Cell} {ext : List Cell}
    (ha : a < h.length) : (upd h a c' ext)[a]? = some c' := by
  unfold upd
  rw [List.getElem?_append_left (by simpa using ha), List.getElem?_set_self ha]

theorem getElem?_upd_high {h : Heap} {a x : Nat} {c' : Cell} {ext : List Cell}
    (hx : h.length ≤ x) : (upd h a c' ext)[x]? = ext[x - h.length]? := by
  unfold upd
  rw [List.getElem?_append_right (by simpa using hx), List.length_set]

theorem length_upd {h : Heap} {a : Nat} {c' : Cell} {ext : List Cell} :
    (upd h a c' ext).length = h.length + ext.length := by simp [upd]

theorem upd_cell {h : Heap} {a x : Nat} {c' d : Cell} {ext : List Cell}
    (hd : (upd h a c' ext)[x]? = some d) :
    (x ≠ a ∧ h[x]? = some d) ∨ (x = a ∧ d = c') ∨ (h.length ≤ x ∧ d ∈ ext) := by
  by_cases hl : x < h.length
  · by_cases hxa : x = a
    · subst hxa
      rw [getElem?_upd_at hl] at hd
      exact Or.inr (Or.inl ⟨rfl, (Option.some.inj hd).symm⟩)
    · rw [getElem?_upd_low hl hxa] at hd
      exact Or.inl ⟨hxa, hd⟩
  · rw [getElem?_upd_high (Nat.le_of_not_lt hl)] at hd
    exact Or.inr (Or.inr ⟨Nat.le_of_not_lt hl, List.mem_of_getElem? hd⟩)

/-! ### every action is one `upd` -/

theorem eq_or_mem_of_mem_setRef {k b : Nat} {c : Cell} {p : Nat × Nat} (hp : p ∈ (setRef k b c).refs) :
    p = (k, b) ∨ p ∈ c.refs := by
  simp only [setRef, List.mem_cons] at hp
  exact hp.imp_right fun hp => (List.mem_filter.mp hp).1

theorem mem_of_mem_delRef {k : Nat} {c : Cell} {p : Nat × Nat} (hp : p ∈ (delRef k c).refs) : p ∈ c.refs :=
  (List.mem_filter.mp hp).1

def actPath : Act → Path
  | .write p _ => p
  | .unlink p _ => p
  | .link p _ _ => p
  | .fresh p _ _ _ => p

/-- the references an action stores: key, and path from the root to the cell referred to -/
def actLinks : Act → List (Nat × Path)
  | .link _ k q => [(k, q)]
  | .fresh _ _ _ kids => kids
  | _ => []

theorem actTarget_eq (h : Heap) (r : Nat) (act : Act) : actTarget h r act = follow h r (actPath act) := by
  cases act <;> rfl

theorem CleanAct.split : ∀ {act : Act}, CleanAct act →
    cleanPath (actPath act) ∧ ∀ kq ∈ actLinks act, kq.1 ≠ kData → cleanPath kq.2
  | .write _ _, cl => ⟨cl, nofun⟩
  | .unlink _ _, cl => ⟨cl, nofun⟩
  | .link _ _ _, cl => ⟨cl.1, List.forall_mem_singleton.mpr cl.2⟩
  | .fresh _ _ _ _, cl => cl

/-- an effective action replaces `c` at the end of its path by `c'` and allocates `ext`; a new
    reference was in `c`, or is one the action stores, or goes to `ext` -/
structure ActStep (h : Heap) (r : Nat) (act : Act) (a : Nat) (c c' : Cell) (ext : List Cell) : Prop where
  target : follow h r (actPath act) = some a
  cell : h[a]? = some c
  refs : ∀ p ∈ c'.refs, p ∈ c.refs ∨ (∃ q, (p.1, q) ∈ actLinks act ∧ follow h r q = some p.2) ∨
    (h.length ≤ p.2 ∧ p.2 < h.length + ext.length)
  alloc : ∀ e ∈ ext, ∀ p ∈ e.refs, ∃ q, (p.1, q) ∈ actLinks act ∧ follow h r q = some p.2

theorem ActStep.actTarget {h : Heap} {r a : Nat} {act : Act} {c c' : Cell} {ext : List Cell}
    (st : ActStep h r act a c c' ext) : actTarget h r act = some a :=
  (actTarget_eq h r act).trans st.target

theorem applyAct_cases (h : Heap) (r : Nat) (act : Act) :
    applyAct h r act = h ∨
    ∃ a c c' ext, ActStep h r act a c c' ext ∧ applyAct h r act = upd h a c' ext := by
  cases act with
  | write p d =>
    cases hf : follow h r p with
    | none => exact Or.inl (by simp only [applyAct, hf])
    | some a =>
      cases hc : h[a]? with
      | none => exact Or.inl (by simp only [applyAct, hf, hc])
      | some c =>
        refine Or.inr ⟨a, c, setData d c, [], ⟨hf, hc, ?_, List.forall_mem_nil _⟩, by simp only [applyAct, hf, hc]⟩
        exact fun p hp => Or.inl hp
  | unlink p k =>
    cases hf : follow h r p with
    | none => exact Or.inl (by simp only [applyAct, hf])
    | some a =>
      cases hc : h[a]? with
      | none => exact Or.inl (by simp only [applyAct, hf, hc])
      | some c =>
        refine Or.inr ⟨a, c, delRef k c, [], ⟨hf, hc, ?_, List.forall_mem_nil _⟩, by simp only [applyAct, hf, hc]⟩
        exact fun p hp => Or.inl (mem_of_mem_delRef hp)
  | link p k q =>
    cases hf : follow h r p with
    | none => exact Or.inl (by simp only [applyAct, hf])
    | some a =>
      cases hg : follow h r q with
      | none => exact Or.inl (by simp only [applyAct, hf, hg])
      | some b =>
        cases hc : h[a]? with
        | none => exact Or.inl (by simp only [applyAct, hf, hg, hc])
        | some c =>
          refine Or.inr ⟨a, c, setRef k b c, [], ⟨hf, hc, ?_, List.forall_mem_nil _⟩, by simp only [applyAct, hf, hg, hc]⟩
          intro p hp
          rcases eq_or_mem_of_mem_setRef hp with rfl | hp
          · exact Or.inr (Or.inl ⟨q, List.mem_singleton.mpr rfl, hg⟩)
          · exact Or.inl hp
  | fresh p k d kids =>
    cases hf : follow h r p with
    | none => exact Or.inl (by simp only [applyAct, hf])
    | some a =>
      cases hc : h[a]? with
      | none => exact Or.inl (by simp only [applyAct, hf, hc])
      | some c =>
        refine Or.inr ⟨a, c, setRef k h.length c, [⟨d, resolveKids h r kids⟩], ⟨hf, hc, ?_, ?_⟩,
          by simp only [applyAct, hf, hc]⟩
        · intro p hp
          rcases eq_or_mem_of_mem_setRef hp with rfl | hp
          · exact Or.inr (Or.inr ⟨Nat.le_refl _, Nat.lt_succ_self _⟩)
          · exact Or.inl hp
        · intro e he p hp
          cases List.mem_singleton.mp he
          exact resolveKids_mem hp

theorem length_applyAct_ge (h : Heap) (r : Nat) (act : Act) : h.length ≤ (applyAct h r act).length := by
  rcases applyAct_cases h r act with e | ⟨a, c, c', ext, _, e⟩
  · rw [e]; exact Nat.le_refl _
  · rw [e, length_upd]; exact Nat.le_add_right _ _

theorem ActStep.succs {h : Heap} {r a : Nat} {act : Act} {c c' : Cell} {ext : List Cell}
    (st : ActStep h r act a c c' ext) {x y : Nat} (hy : y ∈ succs (upd h a c' ext) x) :
    y ∈ succs h x ∨ Reach h r y ∨ (h.length ≤ y ∧ y < h.length + ext.length) := by
  obtain ⟨d, hd, k, hk⟩ := mem_succs.mp hy
  rcases upd_cell hd with ⟨_, hx⟩ | ⟨rfl, rfl⟩ | ⟨_, hm⟩
  · exact Or.inl (mem_succs.mpr ⟨d, hx, k, hk⟩)
  · rcases st.refs _ hk with h1 | ⟨_, _, hq⟩ | h1
    · exact Or.inl (mem_succs.mpr ⟨c, st.cell, k, h1⟩)
    · exact Or.inr (Or.inl (follow_reach hq))
    · exact Or.inr (Or.inr h1)
  · obtain ⟨_, _, hq⟩ := st.alloc d hm _ hk
    exact Or.inr (Or.inl (follow_reach hq))

theorem act_preserves {h : Heap} {r s : Nat} (inv : Inv h r s) (act : Act) :
    Frame h (applyAct h r act) s ∧ Inv (applyAct h r act) r s := by
  rcases applyAct_cases h r act with e | ⟨a, c, c', ext, st, e⟩
  · rw [e]; exact ⟨frame_refl h s, inv⟩
  rw [e]
  obtain ⟨wf, hr, hs, sp⟩ := inv
  -- the modified cell is reachable from `r`, hence not from `s`
  have fr : Frame h (upd h a c' ext) s := fun x hx =>
    getElem?_upd_low (reach_lt wf hs hx) (fun e => sp a (follow_reach st.target) (e ▸ hx))
  refine ⟨fr, ?_, by rw [length_upd]; omega, by rw [length_upd]; omega, ?_⟩
  · intro x y hy
    rw [length_upd]
    rcases st.succs hy with h1 | h1 | h1
    · exact Nat.lt_add_right _ (wf x y h1)
    · exact Nat.lt_add_right _ (reach_lt wf hr h1)
    · exact h1.2
  · intro x hxr hxs
    have hxs' : Reach h s x := (frame_reach fr).mp hxs
    -- whatever `r` reaches now it reached before, or it is new
    have P : Reach h r x ∨ h.length ≤ x := by
      refine reach_closed (h := upd h a c' ext) (fun x => Reach h r x ∨ h.length ≤ x)
        (Or.inl Reach.refl) ?_ hxr
      intro z hz y hy
      rcases st.succs hy with h1 | h1 | h1
      · exact Or.inl (Reach.step (hz.resolve_right (Nat.not_le_of_lt (succs_lt h1))) h1)
      · exact Or.inl h1
      · exact Or.inr h1.1
    rcases P with h1 | h1
    · exact sp x h1 hxs'
    · exact Nat.not_le_of_lt (reach_lt wf hs hxs') h1

theorem runActs_preserves {r s : Nat} : ∀ (acts : List Act) {h : Heap}, Inv h r s →
    Frame h (runActs h r acts) s ∧ Inv (runActs h r acts) r s
  | [], h, inv => ⟨frame_refl h s, inv⟩
  | a :: acts, h, inv => by
    obtain ⟨f1, i1⟩ := act_preserves inv a
    obtain ⟨f2, i2⟩ := runActs_preserves acts i1
    exact ⟨frame_trans f1 f2, i2⟩

theorem runBoth_inv {r s : Nat} : ∀ (acts : List (Bool × Act)) {h : Heap}, Inv h r s →
    Inv (runBoth h r s acts) r s
  | [], _, inv => inv
  | (false, a) :: acts, _, inv => runBoth_inv acts (act_preserves inv a).2
  | (true, a) :: acts, _, inv => runBoth_inv acts (inv_symm (act_preserves (inv_symm inv) a).2)

/-! ### appended cells: `LowSame`, `Block` -/

/-- `h'` agrees with `h` on the addresses of `h` -/
def LowSame (h h' : Heap) : Prop := ∀ a, a < h.length → h'[a]? = h[a]?

theorem lowSame_frame {h h' : Heap} {r : Nat} (wf : WF h) (hr : r < h.length) (ls : LowSame h h') :
    Frame h h' r := fun x hx => ls x (reach_lt wf hr hx)

theorem lowSame_append (h ext : Heap) : LowSame h (h ++ ext) :=
  fun _ ha => List.getElem?_append_left ha

theorem reach_mono {h h' : Heap} {r : Nat} (ls : LowSame h h') : ∀ {x}, Reach h r x → Reach h' r x := by
  intro x hx
  induction hx with
  | refl => exact Reach.refl
  | step _ hb ih => rw [← succs_congr (ls _ (succs_lt hb))] at hb; exact Reach.step ih hb

/-- `h'` is `h` followed by new cells whose references stay inside `[n0, h'.length)`, except data
    references to buffers in `A` (an input array wrapped without copying) -/
def Block (n0 : Nat) (A : Nat → Prop) (h h' : Heap) : Prop :=
  ∃ ext, h' = h ++ ext ∧
    ∀ e ∈ ext, ∀ p ∈ e.refs, (n0 ≤ p.2 ∧ p.2 < h'.length) ∨ (p.1 = kData ∧ A p.2)

section Block
variable {n0 : Nat} {A : Nat → Prop} {h h' : Heap}

theorem block_length (e : Block n0 A h h') : h.length ≤ h'.length := by
  obtain ⟨x, rfl, _⟩ := e
  rw [List.length_append]; exact Nat.le_add_right _ _

theorem block_lowSame (e : Block n0 A h h') : LowSame h h' := by
  obtain ⟨x, rfl, _⟩ := e
  exact lowSame_append h x

theorem block_trans {h1 : Heap} (e1 : Block n0 A h h1) (e2 : Block n0 A h1 h') : Block n0 A h h' := by
  have hl := block_length e2
  obtain ⟨x1, rfl, a1⟩ := e1
  obtain ⟨x2, rfl, a2⟩ := e2
  refine ⟨x1 ++ x2, List.append_assoc _ _ _, fun e he p hp => ?_⟩
  rcases List.mem_append.mp he with he | he
  · exact (a1 e he p hp).imp_left fun b => ⟨b.1, Nat.lt_of_lt_of_le b.2 hl⟩
  · exact a2 e he p hp

theorem block_cell (e : Block n0 A h h') {a : Nat} {c : Cell} (ha : h.length ≤ a) (hc : h'[a]? = some c) :
    ∀ p ∈ c.refs, (n0 ≤ p.2 ∧ p.2 < h'.length) ∨ (p.1 = kData ∧ A p.2) := by
  obtain ⟨x, rfl, b⟩ := e
  rw [List.getElem?_append_right ha] at hc
  exact b c (List.mem_of_getElem? hc)

theorem block_wf (e : Block n0 A h h') (hA : ∀ b, A b → b < h.length) (wf : WF h) : WF h' := by
  intro a y hy
  obtain ⟨c, hc, k, hk⟩ := mem_succs.mp hy
  by_cases hl : a < h.length
  · rw [block_lowSame e a hl] at hc
    exact Nat.lt_of_lt_of_le (wf_cell wf hc _ hk) (block_length e)
  · rcases block_cell e (Nat.le_of_not_lt hl) hc _ hk with h1 | h1
    · exact h1.2
    · exact Nat.lt_of_lt_of_le (hA _ h1.2) (block_length e)

theorem block_dataOnlyLow (e : Block h.length A h h') : DataOnlyLow h.length h' :=
  fun _ _ ha hc p hp hk => ((block_cell e ha hc p hp).resolve_right fun h1 => hk h1.1).1

theorem block_fresh {r r' : Nat} (wf : WF h) (e : Block h.length (fun _ => False) h h')
    (hr : r < h.length) (hr' : h.length ≤ r') (hl : r' < h'.length) :
    Inv h' r r' ∧ Frame h h' r := by
  have fr := lowSame_frame wf hr (block_lowSame e)
  refine ⟨⟨block_wf e (fun _ => False.elim) wf, Nat.lt_of_lt_of_le hr (block_length e), hl, ?_⟩, fr⟩
  intro x hx hx'
  -- what the new object reaches lies inside the block
  have hi : h.length ≤ x := by
    refine reach_closed (fun x => h.length ≤ x) hr' (fun a ha y hy => ?_) hx'
    obtain ⟨c, hc, k, hk⟩ := mem_succs.mp hy
    exact ((block_cell e ha hc _ hk).resolve_right fun h1 => h1.2).1
  exact Nat.not_le_of_lt (reach_lt wf hr ((frame_reach fr).mp hx)) hi

end Block

/-! ### `dup` -/

theorem dup_high {h : Heap} (a : Nat) :
    (dup h)[a + h.length]? = (h[a]?).map (shiftCell h.length) := by
  unfold dup
  rw [List.getElem?_append_right (Nat.le_add_left _ _), Nat.add_sub_cancel, List.getElem?_map]

theorem length_dup {h : Heap} : (dup h).length = 2 * h.length := by
  rw [dup, List.length_append, List.length_map, Nat.two_mul]

theorem succs_dup_high {h : Heap} (a : Nat) :
    succs (dup h) (a + h.length) = (succs h a).map (· + h.length) := by
  unfold succs
  rw [dup_high]
  cases h[a]? with
  | none => rfl
  | some c => simp [shiftCell, List.map_map, Function.comp_def]

theorem dup_block {h : Heap} {A : Nat → Prop} (wf : WF h) : Block h.length A h (dup h) := by
  refine ⟨_, rfl, fun e he p hp => Or.inl ?_⟩
  obtain ⟨c, hc, rfl⟩ := List.mem_map.mp he
  obtain ⟨q, hq, rfl⟩ := List.mem_map.mp hp
  obtain ⟨a, ha⟩ := List.mem_iff_getElem?.mp hc
  have := wf_cell wf ha q hq
  rw [length_dup]
  exact ⟨Nat.le_add_left _ _, by omega⟩

theorem reach_dup {h : Heap} {r : Nat} : ∀ {x}, Reach h r x → Reach (dup h) (r + h.length) (x + h.length) := by
  intro x hx
  induction hx with
  | refl => exact Reach.refl
  | step _ hb ih =>
    refine Reach.step ih ?_
    rw [succs_dup_high]
    exact List.mem_map.mpr ⟨_, hb, rfl⟩

/-! ### the Boolean checkers -/

theorem wfB_sound {h : Heap} (e : wfB h = true) : WF h := by
  intro a b hb
  obtain ⟨c, hc, k, hk⟩ := mem_succs.mp hb
  exact of_decide_eq_true
    (List.all_eq_true.mp (List.all_eq_true.mp e c (List.mem_of_getElem? hc)) (k, b) hk)

theorem closedB_sound {h : Heap} {S : List Nat} {r : Nat} (e : closedB h S = true) (hr : r ∈ S) :
    ∀ {x}, Reach h r x → x ∈ S := by
  refine reach_closed (fun x => x ∈ S) hr ?_
  intro a ha b hb
  exact List.contains_iff_mem.mp (List.all_eq_true.mp (List.all_eq_true.mp e a ha) b hb)

/-- (no driver calls `highTargetsB`) -/
theorem highTargetsB_sound {r n0 : Nat} : ∀ (acts : List Act) {h : Heap},
    highTargetsB n0 r h acts = true → HighTargets n0 r h acts
  | [], _, _ => trivial
  | act :: acts, h, e => by
    simp only [highTargetsB, Bool.and_eq_true] at e
    refine ⟨?_, highTargetsB_sound acts e.2⟩
    intro t ht
    rw [ht] at e
    exact of_decide_eq_true e.1

/-! ### the allocators; `A` holds the buffers the variables wrap -/

section Alloc
variable {n0 : Nat} {A : Nat → Prop} {h : Heap}

theorem allocVar_block (v : VarSpec) (hn : n0 ≤ h.length) (hv : ∀ b, v.alias = some b → A b) :
    Block n0 A h (allocVar h v).1 ∧
    n0 ≤ (allocVar h v).2 ∧ (allocVar h v).2 < (allocVar h v).1.length := by
  unfold allocVar
  cases ha : v.alias with
  | some b =>
    refine ⟨⟨_, rfl, ?_⟩, Nat.le_succ_of_le hn, by simp⟩
    simp only [List.forall_mem_cons, List.length_append, List.length_cons, List.length_nil]
    exact ⟨nofun, ⟨Or.inl ⟨hn, Nat.lt_add_of_pos_right (by decide)⟩, Or.inr ⟨trivial, hv b ha⟩, nofun⟩,
      nofun⟩
  | none =>
    refine ⟨⟨_, rfl, ?_⟩, Nat.le_add_right_of_le hn, by simp⟩
    simp only [List.forall_mem_cons, List.length_append, List.length_cons, List.length_nil]
    exact ⟨nofun, nofun, ⟨Or.inl ⟨Nat.le_succ_of_le hn, Nat.add_lt_add_left (by decide) _⟩,
      Or.inl ⟨hn, Nat.lt_add_of_pos_right (by decide)⟩, nofun⟩, nofun⟩

theorem allocVars_block : ∀ (vs : List VarSpec) {h : Heap}, n0 ≤ h.length →
    (∀ v ∈ vs, ∀ b, v.alias = some b → A b) →
    Block n0 A h (allocVars h vs).1 ∧
    ∀ p ∈ (allocVars h vs).2, n0 ≤ p.2 ∧ p.2 < (allocVars h vs).1.length
  | [], h, _, _ => ⟨⟨[], (List.append_nil h).symm, nofun⟩, nofun⟩
  | v :: vs, h, hn, hv => by
    obtain ⟨e1, r1, r2⟩ := allocVar_block v hn (hv v (List.mem_cons_self ..))
    obtain ⟨e2, q⟩ := allocVars_block vs (Nat.le_trans hn (block_length e1))
      (fun w hw => hv w (List.mem_cons_of_mem _ hw))
    refine ⟨block_trans e1 e2, fun p hp => ?_⟩
    rcases List.mem_cons.mp hp with rfl | hp
    · exact ⟨r1, Nat.lt_of_lt_of_le r2 (block_length e2)⟩
    · exact q p hp

theorem allocDs_block (vs : List VarSpec) (attrs : List Int) (hn : n0 ≤ h.length)
    (hv : ∀ v ∈ vs, ∀ b, v.alias = some b → A b) :
    Block n0 A h (allocDs h vs attrs).1 ∧
    n0 ≤ (allocDs h vs attrs).2 ∧ (allocDs h vs attrs).2 < (allocDs h vs attrs).1.length := by
  obtain ⟨e1, q⟩ := allocVars_block vs hn hv
  have hl := Nat.le_trans hn (block_length e1)
  refine ⟨block_trans e1 ⟨_, rfl, ?_⟩, Nat.le_succ_of_le hl, by simp [allocDs]⟩
  simp only [allocDs, List.forall_mem_cons, List.length_append, List.length_cons, List.length_nil]
  refine ⟨nofun, ⟨Or.inl (by omega), fun p hp => Or.inl ?_⟩, nofun⟩
  have := q p hp
  omega

theorem allocGrid_block (vs : List VarSpec) (attrs spec : List Int) (hn : n0 ≤ h.length)
    (hv : ∀ v ∈ vs, ∀ b, v.alias = some b → A b) :
    Block n0 A h (allocGrid h vs attrs spec).1 ∧
    n0 ≤ (allocGrid h vs attrs spec).2 ∧
    (allocGrid h vs attrs spec).2 < (allocGrid h vs attrs spec).1.length := by
  obtain ⟨e1, r1, r2⟩ := allocDs_block vs attrs hn hv
  have hl := Nat.le_trans hn (block_length e1)
  refine ⟨block_trans e1 ⟨_, rfl, ?_⟩, Nat.le_succ_of_le hl, by simp [allocGrid]⟩
  simp only [allocGrid, List.forall_mem_cons, List.length_append, List.length_cons, List.length_nil]
  exact ⟨nofun, ⟨Or.inl (by omega), Or.inl (by omega), nofun⟩, nofun⟩

theorem allocGrid_lowSame (h : Heap) (vs : List VarSpec) (attrs spec : List Int) :
    LowSame h (allocGrid h vs attrs spec).1 :=
  block_lowSame (allocGrid_block (n0 := 0) (A := fun _ => True) vs attrs spec (Nat.zero_le _)
    (fun _ _ _ _ => trivial)).1

end Alloc

/-! ### the watermark `n0` of the shallow adoption `Grid(ds)`: the grid's own objects above, the
  caller's below; only array buffers are shared -/

theorem applyAct_below {h : Heap} {r n0 : Nat} (act : Act)
    (ht : ∀ t, actTarget h r act = some t → n0 ≤ t) :
    ∀ a, a < n0 → (applyAct h r act)[a]? = h[a]? := by
  intro a ha
  rcases applyAct_cases h r act with e | ⟨t, c, c', ext, st, e⟩
  · rw [e]
  · have hat : a < t := Nat.lt_of_lt_of_le ha (ht t st.actTarget)
    rw [e]
    exact getElem?_upd_low (Nat.lt_trans hat (cell_lt st.cell)) (Nat.ne_of_lt hat)

/-- **any history whose actions all modify cells at or above `n0`** leaves every cell below `n0` as it was -/
theorem runActs_lowSame {r n0 : Nat} : ∀ (acts : List Act) {h : Heap}, n0 ≤ h.length →
    HighTargets n0 r h acts → ∀ a, a < n0 → (runActs h r acts)[a]? = h[a]?
  | [], _, _, _, _, _ => rfl
  | act :: acts, h, hn, ht, a, ha => by
    have h1 := applyAct_below act ht.1 a ha
    have h2 := runActs_lowSame acts (Nat.le_trans hn (length_applyAct_ge h r act)) ht.2 a ha
    simp only [runActs, List.foldl_cons] at h2 ⊢
    rw [h2, h1]

/-! ### clean actions: under `DataOnlyLow n0` only data references lead below `n0`, and a clean path
  follows none, so it ends at or above `n0` — as do the references a clean action stores -/

theorem follow_clean_high {n0 : Nat} {h : Heap} (Q : DataOnlyLow n0 h) :
    ∀ {p : Path} {a t : Nat}, n0 ≤ a → cleanPath p → follow h a p = some t → n0 ≤ t
  | [], a, t, ha, _, e => by cases e; exact ha
  | k :: p, a, t, ha, cl, e => by
    obtain ⟨b, hf, e'⟩ := follow_cons e
    obtain ⟨c, hc, hm⟩ := field_mem hf
    exact follow_clean_high Q (Q a c ha hc (k, b) hm (cl k (List.mem_cons_self ..)))
      (fun k' hk' => cl k' (List.mem_cons_of_mem _ hk')) e'

theorem dataOnlyLow_upd {n0 t : Nat} {h : Heap} {c' : Cell} {ext : List Cell} (Q : DataOnlyLow n0 h)
    (h1 : ∀ p ∈ c'.refs, p.1 ≠ kData → n0 ≤ p.2)
    (h2 : ∀ e ∈ ext, ∀ p ∈ e.refs, p.1 ≠ kData → n0 ≤ p.2) : DataOnlyLow n0 (upd h t c' ext) := by
  intro a ca ha hca
  rcases upd_cell hca with ⟨_, hx⟩ | ⟨_, rfl⟩ | ⟨_, hm⟩
  · exact Q a ca ha hx
  · exact h1
  · exact h2 ca hm

theorem cleanAct_preserves {n0 r : Nat} {h : Heap} (Q : DataOnlyLow n0 h) (hr : n0 ≤ r)
    (act : Act) (cl : CleanAct act) :
    (∀ t, actTarget h r act = some t → n0 ≤ t) ∧ DataOnlyLow n0 (applyAct h r act) := by
  obtain ⟨clp, cll⟩ := cl.split
  have tg : ∀ t, actTarget h r act = some t → n0 ≤ t :=
    fun t e => follow_clean_high Q hr clp (by rw [← actTarget_eq]; exact e)
  -- a stored reference under a non-data key ends a clean path
  have lk : ∀ p : Nat × Nat, (∃ q, (p.1, q) ∈ actLinks act ∧ follow h r q = some p.2) →
      p.1 ≠ kData → n0 ≤ p.2 :=
    fun p ⟨q, hm, hq⟩ hk => follow_clean_high Q hr (cll (p.1, q) hm hk) hq
  refine ⟨tg, ?_⟩
  rcases applyAct_cases h r act with e | ⟨t, c, c', ext, st, e⟩
  · rw [e]; exact Q
  · rw [e]
    have ht : n0 ≤ t := tg t st.actTarget
    refine dataOnlyLow_upd Q (fun p hp hk => ?_) (fun e he p hp => lk p (st.alloc e he p hp))
    rcases st.refs p hp with h1 | h1 | h1
    · exact Q t c ht st.cell p h1 hk
    · exact lk p h1 hk
    · exact Nat.le_trans ht (Nat.le_trans (Nat.le_of_lt (cell_lt st.cell)) h1.1)

/-- **any history of clean actions** modifies only cells at or above `n0` -/
theorem runActs_clean {n0 r : Nat} (hr : n0 ≤ r) : ∀ (acts : List Act) {h : Heap}, DataOnlyLow n0 h →
    (∀ a ∈ acts, CleanAct a) → HighTargets n0 r h acts ∧ DataOnlyLow n0 (runActs h r acts)
  | [], _, Q, _ => ⟨trivial, Q⟩
  | act :: acts, h, Q, cl => by
    obtain ⟨t1, Q1⟩ := cleanAct_preserves Q hr act (cl act (by simp))
    obtain ⟨t2, Q2⟩ := runActs_clean hr acts Q1 (fun a ha => cl a (List.mem_cons_of_mem _ ha))
    exact ⟨⟨t1, t2⟩, by simpa only [runActs, List.foldl_cons] using Q2⟩

end UxVerif.Heap
