/-
  C18 — the angle key of the repaired `_order_nodes` orders directions exactly like the polynomial
  counter-clockwise comparator of the specification (`Dual.before` at margin 0), over ℝ.

  The key of a direction is the angle `ang a p` of a point `(a, p)` of the unit circle (cosine and
  sine of the turn from the first centre).  How two such angles compare is a fact about four reals
  (`ang_lt_iff`); the vector algebra supplies the points, their half turns and the sign of
  `a q − b p`.
-/
import UxVerif.Lemmas.Dual
import Mathlib.Analysis.SpecialFunctions.Trigonometric.Inverse

namespace UxVerif.Dual
open UxVerif

/-- the run-time functions at ℝ -/
noncomputable def realNum : Num ℝ :=
  { sqrt := Real.sqrt, acos := Real.arccos, lt := fun a b => decide (a < b), twoPi := 2 * Real.pi }

theorem realNum_strictOrder : StrictOrder realNum.lt := by
  refine ⟨?_, ?_, ?_⟩
  · intro a; simp [realNum]
  · intro a b c h1 h2
    simp only [realNum, decide_eq_true_eq] at *
    exact lt_trans h1 h2
  · intro a b
    simp only [realNum, decide_eq_true_eq]
    exact lt_trichotomy a b

/-! ## vector algebra: side test, triple product, tangent projection, scaling -/

section algebra
variable {K : Type} [CommRing K]

theorem side_eq_neg_tri (c n0 d : V3 K) : side c n0 d = - tri c (n0.sub c) d := by
  simp only [side, tri, dot, cross, V3.sub]
  ring

/-- the triple product ignores radial parts: subtracting any multiples of `c` changes nothing -/
theorem tri_radial (c a b : V3 K) (l m : K) :
    tri c (a.sub (V3.smul l c)) (b.sub (V3.smul m c)) = tri c a b := by
  simp only [tri, dot, cross, V3.sub, V3.smul]
  ring

theorem side_radial (c n0 d : V3 K) (l : K) : side c n0 (d.sub (V3.smul l c)) = side c n0 d := by
  simp only [side, dot, cross, V3.sub, V3.smul]
  ring

theorem tri_swap (c a b : V3 K) : tri c b a = - tri c a b := by
  simp only [tri, dot, cross]
  ring

theorem dot_sub_smul_left (c x w : V3 K) (l : K) :
    dot (x.sub (V3.smul l c)) w = dot x w - l * dot c w := by
  simp only [dot, V3.sub, V3.smul]
  ring

theorem dot_sub_smul (c x y : V3 K) (l m : K) :
    dot (x.sub (V3.smul l c)) (y.sub (V3.smul m c))
      = dot x y - m * dot x c - l * dot y c + l * m * dot c c := by
  simp only [dot, V3.sub, V3.smul]
  ring

theorem dot_smul_smul (k l : K) (a b : V3 K) : dot (V3.smul k a) (V3.smul l b) = k * l * dot a b := by
  simp only [dot, V3.smul]; ring

theorem side_scale (c n0 d : V3 K) (a b0 b : K) :
    side (V3.smul a c) (V3.smul b0 n0) (V3.smul b d) = a * b0 * b * side c n0 d := by
  simp only [side, dot, cross, V3.smul]; ring

/-- the square of the triple product is the Gram determinant of `c, z, u` -/
theorem gram_identity (c z u : V3 K) :
    (tri c z u) ^ 2 = dot c c * dot z z * dot u u + 2 * dot z c * dot z u * dot u c
      - dot c c * (dot z u) ^ 2 - dot z z * (dot u c) ^ 2 - dot u u * (dot z c) ^ 2 := by
  simp only [tri, dot, cross]; ring

/-- `(z·u)(c·z×v) − (z·v)(c·z×u) = (z·z)(c·u×v) + (z·c)(z·v×u)`: for `z` tangent at `c` the left side is
    `z·z` times the triple product of `u, v` (numerator of `cosN_sinN_cross`) -/
theorem tri_exchange (c z u v : V3 K) :
    dot z u * tri c z v - dot z v * tri c z u = dot z z * tri c u v + dot z c * tri z v u := by
  simp only [tri, dot, cross]; ring

end algebra

section field
variable {K : Type} [Field K]

theorem tri_tproj (c a b : V3 K) : tri c (tproj c a) (tproj c b) = tri c a b := tri_radial c a b _ _

theorem tproj_tangent (c v : V3 K) (hc : dot c c ≠ 0) : dot (tproj c v) c = 0 := by
  rw [tproj, dot_sub_smul_left, div_mul_cancel₀ _ hc, sub_self]

theorem dot_tproj (c x y : V3 K) (hc : dot c c ≠ 0) :
    dot (tproj c x) (tproj c y) = tdot c x y / dot c c := by
  rw [tproj, tproj, dot_sub_smul, tdot]
  field_simp
  ring

end field

theorem dot_self_nonneg (a : V3 ℝ) : 0 ≤ dot a a :=
  add_nonneg (add_nonneg (mul_self_nonneg _) (mul_self_nonneg _)) (mul_self_nonneg _)

theorem eq_zero_of_dot_self (a : V3 ℝ) (h : dot a a = 0) : a = ⟨0, 0, 0⟩ := by
  obtain ⟨x, y, z⟩ := a
  obtain ⟨hxy, hz⟩ := (add_eq_zero_iff_of_nonneg
    (add_nonneg (mul_self_nonneg x) (mul_self_nonneg y)) (mul_self_nonneg z)).mp h
  obtain ⟨hx, hy⟩ := mul_self_add_mul_self_eq_zero.mp hxy
  rw [hx, hy, mul_self_eq_zero.mp hz]

theorem dot_self_pos {a : V3 ℝ} (h : a ≠ ⟨0, 0, 0⟩) : 0 < dot a a :=
  (dot_self_nonneg a).lt_of_ne' fun h0 => h (eq_zero_of_dot_self a h0)

theorem norm_pos_of {z : V3 ℝ} (h : 0 < dot z z) : 0 < Dual.norm realNum z :=
  Real.sqrt_pos.mpr h

theorem norm_sq_of (z : V3 ℝ) : Dual.norm realNum z ^ 2 = dot z z :=
  Real.sq_sqrt (dot_self_nonneg z)

theorem norm_smul_pos (k : ℝ) (hk : 0 ≤ k) (v : V3 ℝ) :
    Dual.norm realNum (V3.smul k v) = k * Dual.norm realNum v := by
  simp only [Dual.norm, realNum]
  rw [dot_smul_smul, show k * k * dot v v = k ^ 2 * dot v v by ring,
    Real.sqrt_mul (sq_nonneg k), Real.sqrt_sq hk]

/-- one coordinate of `tproj_scale` (`σ = s·c`, `q = c·c`) -/
theorem tproj_scale_coord {a b σ q sx cx : ℝ} (ha : a ≠ 0) (hq : q ≠ 0) :
    b * sx - a * cx - (a * b * σ - a ^ 2 * q) / (a ^ 2 * q) * (a * cx)
      = b * (sx - cx - (σ - q) / q * cx) := by
  field_simp
  ring

/-- the tangent part of a chord scales with the far end only: `c ↦ a•c`, `s ↦ b•s` gives `b` times it -/
theorem tproj_scale (c s : V3 ℝ) (a b : ℝ) (ha : a ≠ 0) (hc : dot c c ≠ 0) :
    tproj (V3.smul a c) ((V3.smul b s).sub (V3.smul a c)) = V3.smul b (tproj c (s.sub c)) := by
  have h1 : dot ((V3.smul b s).sub (V3.smul a c)) (V3.smul a c) = a * b * dot s c - a ^ 2 * dot c c := by
    simp only [dot, V3.sub, V3.smul]; ring
  have h2 : dot (V3.smul a c) (V3.smul a c) = a ^ 2 * dot c c := by
    simp only [dot, V3.smul]; ring
  have h3 : dot (s.sub c) c = dot s c - dot c c := by
    simp only [dot, V3.sub]; ring
  unfold tproj
  rw [h1, h2, h3]
  simp only [V3.sub, V3.smul]
  congr 1 <;> exact tproj_scale_coord ha hc

/-! ## angles of points of the unit circle -/

/-- which half turn (counter-clockwise from angle 0) the direction with sine `∝ T` and cosine `∝ A`
    lies in: `0` = (0, π), `1` = [π, 2π), `none` = angle 0 (or no direction at all).
    The specification's `halfOf` at margin 0 is this function of `tri` and `tdot` (`halfOf_eq_halfR`). -/
noncomputable def halfR (T A : ℝ) : Option Nat :=
  if 0 < T then some 0 else if T < 0 then some 1 else if A < 0 then some 1 else none

theorem halfR_cases {T A : ℝ} {i : Nat} (h : halfR T A = some i) :
    (i = 0 ∧ 0 < T) ∨ (i = 1 ∧ T ≤ 0 ∧ (T = 0 → A < 0)) := by
  unfold halfR at h
  split_ifs at h with h1 h2 h3
  · exact Or.inl ⟨(Option.some.inj h).symm, h1⟩
  · exact Or.inr ⟨(Option.some.inj h).symm, h2.le, fun h0 => absurd h0 h2.ne⟩
  · exact Or.inr ⟨(Option.some.inj h).symm, not_lt.mp h1, fun _ => h3⟩

theorem halfR_div (T A : ℝ) {d e : ℝ} (hd : 0 < d) (he : 0 < e) :
    halfR (T / d) (A / e) = halfR T A := by
  simp only [halfR, div_pos_iff_of_pos_right hd, div_lt_iff₀ hd, div_lt_iff₀ he, zero_mul]

/-- the angle in `[0, 2π)` of the point `(a, p)`: `arccos a`, reflected when the sine is negative -/
noncomputable def ang (a p : ℝ) : ℝ :=
  if p < 0 then -Real.arccos a + 2 * Real.pi else Real.arccos a

theorem ang_div (a p : ℝ) {d : ℝ} (hd : 0 < d) : ang a (p / d) = ang a p := by
  simp only [ang, div_lt_iff₀ hd, zero_mul]

theorem unit_bounds {a p : ℝ} (h : a ^ 2 + p ^ 2 = 1) : -1 ≤ a ∧ a ≤ 1 :=
  abs_le.mp ((sq_le_one_iff_abs_le_one a).mp ((le_add_of_nonneg_right (sq_nonneg p)).trans_eq h))

theorem unit_strict {a p : ℝ} (h : a ^ 2 + p ^ 2 = 1) (hp : p ≠ 0) : -1 < a ∧ a < 1 :=
  abs_lt.mp ((sq_lt_one_iff_abs_lt_one a).mp
    ((lt_add_of_pos_right _ (sq_pos_of_ne_zero hp)).trans_eq h))

theorem ang_upper {a p : ℝ} (h : a ^ 2 + p ^ 2 = 1) (hp : 0 < p) :
    ang a p = Real.arccos a ∧ 0 < ang a p ∧ ang a p < Real.pi := by
  rw [show ang a p = Real.arccos a from if_neg (not_lt.mpr hp.le)]
  exact ⟨rfl, Real.arccos_pos.mpr (unit_strict h hp.ne').2,
    Real.arccos_lt_pi.mpr (unit_strict h hp.ne').1⟩

/-- on the closed lower half circle without `(1, 0)` the angle is `2π − arccos a` throughout (at
    `(-1, 0)` both branches give `π`), in `[π, 2π)` -/
theorem ang_lower {a p : ℝ} (h : a ^ 2 + p ^ 2 = 1) (hp : p ≤ 0) (h0 : p = 0 → a < 0) :
    ang a p = -Real.arccos a + 2 * Real.pi ∧ Real.pi ≤ ang a p ∧ ang a p < 2 * Real.pi := by
  have key : ang a p = -Real.arccos a + 2 * Real.pi ∧ 0 < Real.arccos a := by
    rcases hp.lt_or_eq with hp | hp
    · exact ⟨if_pos hp, Real.arccos_pos.mpr (unit_strict h hp.ne).2⟩
    · have ha : a = -1 := by
        have h1 : (a + 1) * (a - 1) = 0 := by rw [hp] at h; linear_combination h
        exact eq_neg_of_add_eq_zero_left
          ((mul_eq_zero.mp h1).resolve_right (sub_neg.mpr ((h0 hp).trans one_pos)).ne)
      rw [ang, hp, if_neg (lt_irrefl 0), ha, Real.arccos_neg_one]
      exact ⟨by ring, Real.pi_pos⟩
  rw [key.1]
  refine ⟨rfl, ?_, ?_⟩
  · rw [le_neg_add_iff_add_le, two_mul]
    exact add_le_add_left (Real.arccos_le_pi a) _
  · rw [neg_add_lt_iff_lt_add]
    exact lt_add_of_pos_left _ key.2

theorem ang_range {a p : ℝ} (h : a ^ 2 + p ^ 2 = 1) {i : Nat} (hi : halfR p a = some i) :
    0 < ang a p ∧ ang a p < 2 * Real.pi := by
  rcases halfR_cases hi with ⟨_, hp⟩ | ⟨_, hp, h0⟩
  · obtain ⟨_, h1, h2⟩ := ang_upper h hp
    exact ⟨h1, h2.trans (lt_two_mul_self Real.pi_pos)⟩
  · obtain ⟨_, h1, h2⟩ := ang_lower h hp h0
    exact ⟨Real.pi_pos.trans_le h1, h2⟩

/-- on the unit circle `(a − b)(p + q) = (1 − ab + pq)(aq − bp)`, and `1 − ab + pq` is half of
    `(a − b)² + (p + q)²`: for `p + q > 0` the order of the cosines is the sign of the cross product -/
theorem cos_lt_iff_cross {a b p q : ℝ} (hpq : 0 < p + q)
    (ha : a ^ 2 + p ^ 2 = 1) (hb : b ^ 2 + q ^ 2 = 1) : b < a ↔ 0 < a * q - b * p := by
  have hpos : 0 < 1 - a * b + p * q := by
    rw [show 1 - a * b + p * q = ((a - b) ^ 2 + (p + q) ^ 2) / 2 by
      linear_combination (-1 / 2) * ha + (-1 / 2) * hb]
    exact half_pos (add_pos_of_nonneg_of_pos (sq_nonneg _) (pow_pos hpq 2))
  calc b < a ↔ 0 < (a - b) * (p + q) := by rw [mul_pos_iff_of_pos_right hpq, sub_pos]
    _ ↔ 0 < a * q - b * p := by
      rw [show (a - b) * (p + q) = (1 - a * b + p * q) * (a * q - b * p) by
        linear_combination (-(a * p)) * hb + (b * q) * ha, mul_pos_iff_of_pos_left hpos]

/-- **angles of points of the unit circle compare like half turn, then cross product** -/
theorem ang_lt_iff {a p b q : ℝ} (ha : a ^ 2 + p ^ 2 = 1) (hb : b ^ 2 + q ^ 2 = 1) {i j : Nat}
    (hi : halfR p a = some i) (hj : halfR q b = some j) (hX : i = j → a * q - b * p ≠ 0) :
    ang a p < ang b q ↔ i < j ∨ (i = j ∧ 0 < a * q - b * p) := by
  have ba : a ∈ Set.Icc (-1 : ℝ) 1 := unit_bounds ha
  have bb : b ∈ Set.Icc (-1 : ℝ) 1 := unit_bounds hb
  rcases halfR_cases hi with ⟨rfl, hp⟩ | ⟨rfl, hp, hp0⟩ <;>
  rcases halfR_cases hj with ⟨rfl, hq⟩ | ⟨rfl, hq, hq0⟩
  · -- both in (0, π): `arccos` reverses the order of the cosines
    rw [(ang_upper ha hp).1, (ang_upper hb hq).1, Real.strictAntiOn_arccos.lt_iff_gt ba bb,
      cos_lt_iff_cross (add_pos hp hq) ha hb]
    simp only [lt_irrefl, true_and, false_or]
  · exact iff_of_true ((ang_upper ha hp).2.2.trans_le (ang_lower hb hq hq0).2.1)
      (Or.inl Nat.zero_lt_one)
  · refine iff_of_false (not_lt.mpr ((ang_upper hb hq).2.2.le.trans (ang_lower ha hp hp0).2.1)) ?_
    rintro (h | ⟨h, _⟩) <;> omega
  · -- both in [π, 2π): the reflection reverses the order once more
    have hpq : 0 < -q + -p :=
      (add_nonneg (neg_nonneg.mpr hq) (neg_nonneg.mpr hp)).lt_of_ne' fun h0 => by
        obtain ⟨hq', hp'⟩ :=
          (add_eq_zero_iff_of_nonneg (neg_nonneg.mpr hq) (neg_nonneg.mpr hp)).mp h0
        exact hX rfl (by rw [neg_eq_zero.mp hq', neg_eq_zero.mp hp', mul_zero, mul_zero, sub_zero])
    rw [(ang_lower ha hp hp0).1, (ang_lower hb hq hq0).1, add_lt_add_iff_right, neg_lt_neg_iff,
      Real.strictAntiOn_arccos.lt_iff_gt bb ba,
      cos_lt_iff_cross hpq (by rwa [neg_sq]) (by rwa [neg_sq]),
      mul_neg, mul_neg, sub_neg_eq_add, neg_add_eq_sub]
    simp only [lt_irrefl, true_and, false_or]

/-! ## the key is the angle of the point `(cosN, sinN)` -/

/-- cosine of the turn from `z` to `u` -/
noncomputable def cosN (z u : V3 ℝ) : ℝ := dot z u / (Dual.norm realNum z * Dual.norm realNum u)

/-- sine of the turn from `z` to `u` about `c`, for `z`, `u` tangent at `c` (`cos_sin_unit`) -/
noncomputable def sinN (c z u : V3 ℝ) : ℝ :=
  tri c z u / (Dual.norm realNum c * (Dual.norm realNum z * Dual.norm realNum u))

/-- clamping the cosine to `[-1, 1]` (on either side) does not change `Real.arccos`, which is
    constant outside that interval.  The left side is the clamp chain of `keyOfVecs` as it unfolds. -/
theorem acos_clamp (cl : Bool) (x : ℝ) :
    realNum.acos (if cl && realNum.lt (if realNum.lt 1 x then 1 else x) (-1) then -1
      else if realNum.lt 1 x then 1 else x) = Real.arccos x := by
  simp only [realNum, Bool.and_eq_true, decide_eq_true_eq]
  by_cases h1 : 1 < x
  · have h2 : ¬ (cl = true ∧ (1 : ℝ) < -1) := fun h => absurd h.2 (by norm_num)
    simp only [h1, if_true, h2, if_false, Real.arccos_one, Real.arccos_of_one_le h1.le]
  · by_cases h2 : cl = true ∧ x < -1
    · simp only [h1, if_false, h2, and_self, if_true, Real.arccos_neg_one,
        Real.arccos_of_le_neg_one h2.2.le]
    · simp only [h1, if_false, h2]

/-- over ℝ the key is the angle of the cosine, reflected by the side value -/
theorem keyOfVecs_real (cl : Bool) (z d : V3 ℝ) (sd : ℝ) :
    keyOfVecs realNum cl z d sd = ang (cosN z d) (-sd) := by
  simp only [keyOfVecs, acos_clamp]
  simp only [cosN, ang, realNum, decide_eq_true_eq, neg_lt_zero]

theorem sin_den_pos (c : V3 ℝ) {z u : V3 ℝ} (hc : 0 < dot c c) (hzz : 0 < dot z z) (huu : 0 < dot u u) :
    0 < Dual.norm realNum c * (Dual.norm realNum z * Dual.norm realNum u) :=
  mul_pos (norm_pos_of hc) (mul_pos (norm_pos_of hzz) (norm_pos_of huu))

theorem cos_sin_unit (c z u : V3 ℝ) (hc : 0 < dot c c) (hzz : 0 < dot z z) (huu : 0 < dot u u)
    (hz : dot z c = 0) (hu : dot u c = 0) : cosN z u ^ 2 + sinN c z u ^ 2 = 1 := by
  have hg : (dot z u) ^ 2 * dot c c + (tri c z u) ^ 2 = dot z z * dot u u * dot c c := by
    rw [gram_identity, hz, hu]; ring
  unfold cosN sinN
  rw [div_pow, div_pow, mul_pow, mul_pow, mul_pow, norm_sq_of c, norm_sq_of z, norm_sq_of u]
  have h1 : dot z z * dot u u ≠ 0 := (mul_pos hzz huu).ne'
  have h2 : dot c c * (dot z z * dot u u) ≠ 0 := (mul_pos hc (mul_pos hzz huu)).ne'
  field_simp
  linear_combination hg

/-- the arithmetic of `cosN_sinN_cross`, on numerators and norms -/
theorem cross_div {Du Dv Tu Tv Tuv s nz nu nv : ℝ} (hs : s ≠ 0) (hZ : nz ≠ 0) (hU : nu ≠ 0)
    (hV : nv ≠ 0) (hx : Du * Tv - Dv * Tu = nz ^ 2 * Tuv) :
    Du / (nz * nu) * (Tv / (s * (nz * nv))) - Dv / (nz * nv) * (Tu / (s * (nz * nu)))
      = Tuv / (s * (nu * nv)) := by
  field_simp
  linear_combination hx

/-- `cos·sin′ − cos′·sin` of the turns to `u` and to `v` is the normalised triple product of `u, v` -/
theorem cosN_sinN_cross (c z u v : V3 ℝ) (hc : 0 < dot c c) (hzz : 0 < dot z z) (huu : 0 < dot u u)
    (hvv : 0 < dot v v) (hz : dot z c = 0) :
    cosN z u * sinN c z v - cosN z v * sinN c z u
      = tri c u v / (Dual.norm realNum c * (Dual.norm realNum u * Dual.norm realNum v)) :=
  cross_div (norm_pos_of hc).ne' (norm_pos_of hzz).ne' (norm_pos_of huu).ne'
    (norm_pos_of hvv).ne' (by rw [norm_sq_of z, tri_exchange, hz]; ring)

/-- the repaired key is computed from the tangent parts, the side value being `−c·(z×u)` -/
theorem keyWith_tangent (c n0 s : V3 ℝ) :
    keyWith realNum true c n0 s = keyOfVecs realNum true (tproj c (n0.sub c)) (tproj c (s.sub c))
      (-(tri c (tproj c (n0.sub c)) (tproj c (s.sub c)))) := by
  have hside : side c n0 (tproj c (s.sub c))
      = -(tri c (tproj c (n0.sub c)) (tproj c (s.sub c))) :=
    (side_radial c n0 _ _).trans ((side_eq_neg_tri c n0 _).trans (congrArg Neg.neg (tri_tproj c _ _).symm))
  unfold keyWith
  simp only [if_true]
  rw [hside]

theorem pos_of_halfR (c z u : V3 ℝ) (i : Nat) (h : halfR (tri c z u) (dot z u) = some i) :
    0 < dot z z ∧ 0 < dot u u := by
  -- with `z` or `u` zero both arguments of `halfR` vanish
  refine ⟨dot_self_pos ?_, dot_self_pos ?_⟩ <;>
  · rintro rfl
    simp [halfR, tri, dot, cross] at h

theorem norm_mul_pos_of_dot_ne {z d : V3 ℝ} (h : dot z d ≠ 0) :
    0 < Dual.norm realNum z * Dual.norm realNum d := by
  refine mul_pos (norm_pos_of (dot_self_pos ?_)) (norm_pos_of (dot_self_pos ?_)) <;>
  · rintro rfl
    simp [dot] at h

/-- for tangent vectors `z` (first centre) and `u` in a defined half turn, the key is the angle of
    a point of the unit circle in that half turn: the normalised cosine and sine of the turn -/
theorem key_point (c z u : V3 ℝ) (hc : 0 < dot c c) (hz : dot z c = 0) (hu : dot u c = 0) {i : Nat}
    (hi : halfR (tri c z u) (dot z u) = some i) :
    0 < dot z z ∧ 0 < dot u u ∧
      keyOfVecs realNum true z u (-(tri c z u)) = ang (cosN z u) (sinN c z u) ∧
      cosN z u ^ 2 + sinN c z u ^ 2 = 1 ∧ halfR (sinN c z u) (cosN z u) = some i := by
  obtain ⟨hzz, huu⟩ := pos_of_halfR c z u i hi
  have hd := sin_den_pos c hc hzz huu
  refine ⟨hzz, huu, ?_, cos_sin_unit c z u hc hzz huu hz hu,
    (halfR_div _ _ hd (mul_pos (norm_pos_of hzz) (norm_pos_of huu))).trans hi⟩
  rw [keyOfVecs_real, neg_neg, sinN, ang_div _ _ hd]

theorem keyOfVecs_scale (z d : V3 ℝ) (sd : ℝ) (p q r : ℝ) (hp : 0 < p) (hq : 0 < q) (hr : 0 < r) :
    keyOfVecs realNum true (V3.smul p z) (V3.smul q d) (r * sd) = keyOfVecs realNum true z d sd := by
  have hdn : cosN (V3.smul p z) (V3.smul q d) = cosN z d := by
    unfold cosN
    rw [dot_smul_smul, norm_smul_pos p hp.le, norm_smul_pos q hq.le, mul_mul_mul_comm]
    exact mul_div_mul_left _ _ (mul_pos hp hq).ne'
  rw [keyOfVecs_real, keyOfVecs_real, hdn]
  simp only [ang, neg_lt_zero, mul_pos_iff_of_pos_left hr]

/-- on the non-reflected side a positive cosine to `z` gives a smaller key than a negative one -/
theorem keyOfVecs_lt_of_signs (z d1 d2 : V3 ℝ) (sd1 sd2 : ℝ) (h1 : sd1 ≤ 0) (h2 : sd2 ≤ 0)
    (hN1 : dot z d1 < 0) (hN2 : 0 < dot z d2) :
    keyOfVecs realNum true z d2 sd2 < keyOfVecs realNum true z d1 sd1 := by
  rw [keyOfVecs_real, keyOfVecs_real, ang, ang, if_neg (not_lt.mpr (neg_nonneg.mpr h1)),
    if_neg (not_lt.mpr (neg_nonneg.mpr h2))]
  -- `arccos` is below `π/2` for a positive cosine and above it for a negative one
  exact (Real.arccos_lt_pi_div_two.mpr (div_pos hN2 (norm_mul_pos_of_dot_ne hN2.ne'))).trans
    (not_le.mp (mt Real.arccos_le_pi_div_two.mp
      (not_le.mpr (div_neg_of_neg_of_pos hN1 (norm_mul_pos_of_dot_ne hN1.ne)))))

/-! ## the comparator `before` at margin 0 is lexicographic: half turn, then side -/

theorem sgn_zero (x scale : ℝ) :
    sgn realNum 0 x scale = if 0 < x then 1 else if x < 0 then -1 else 0 := by
  simp only [sgn, realNum, zero_mul, neg_zero, decide_eq_true_eq]

theorem halfOf_eq_halfR (c d0 d : V3 ℝ) :
    halfOf realNum 0 c d0 d = halfR (tri c d0 d) (tdot c d0 d) := by
  unfold halfOf halfR
  simp only [sgn_zero]
  by_cases h1 : 0 < tri c d0 d
  · simp only [h1, if_true]
  · by_cases h2 : tri c d0 d < 0
    · simp only [h1, h2, if_false, if_true]
    · simp only [h1, h2, if_false]
      simp only [realNum, decide_eq_true_eq]

theorem halfOf_of_tri_pos {c d0 d : V3 ℝ} (h : 0 < tri c d0 d) :
    halfOf realNum 0 c d0 d = some 0 := by
  rw [halfOf_eq_halfR, halfR, if_pos h]

/-- the half turn the specification assigns to a chord is that of its tangent part -/
theorem halfR_tproj (c x y : V3 ℝ) (hc : 0 < dot c c) {i : Nat}
    (h : halfOf realNum 0 c x y = some i) :
    halfR (tri c (tproj c x) (tproj c y)) (dot (tproj c x) (tproj c y)) = some i := by
  rw [tri_tproj, dot_tproj c x y hc.ne', ← div_one (tri c x y), halfR_div _ _ one_pos hc,
    ← halfOf_eq_halfR, h]

theorem halves_of_before {K : Type} [Add K] [Sub K] [Mul K] [Neg K] [OfNat K 0] {R : Num K} {eps : K}
    {c d0 a b : V3 K} (h : before R eps c d0 a b ≠ none) :
    ∃ i j, halfOf R eps c d0 a = some i ∧ halfOf R eps c d0 b = some j := by
  unfold before at h
  cases hi : halfOf R eps c d0 a with
  | none => rw [hi] at h; exact absurd rfl h
  | some i =>
    cases hj : halfOf R eps c d0 b with
    | none => rw [hi, hj] at h; exact absurd rfl h
    | some j => exact ⟨i, j, rfl, rfl⟩

/-- the comparator's verdict from the two half turns and the side: lexicographic, undecided only in
    the same half turn with side 0 -/
noncomputable def lexBefore (i j : Nat) (T : ℝ) : Option Bool :=
  if i < j then some true else if j < i then some false
  else if 0 < T then some true else if T < 0 then some false else none

theorem lexBefore_eq_true_iff {i j : Nat} {T : ℝ} :
    lexBefore i j T = some true ↔ i < j ∨ (i = j ∧ 0 < T) := by
  unfold lexBefore
  rcases Nat.lt_trichotomy i j with h | rfl | h
  · simp [h]
  · by_cases h3 : 0 < T
    · simp [h3]
    · by_cases h4 : T < 0 <;> simp [h3, h4]
  · simp [h, Nat.lt_asymm h, Nat.ne_of_gt h]

theorem lexBefore_ne_none_iff {i j : Nat} {T : ℝ} :
    lexBefore i j T ≠ none ↔ (i = j → T ≠ 0) := by
  unfold lexBefore
  rcases Nat.lt_trichotomy i j with h | rfl | h
  · simp [h, Nat.ne_of_lt h]
  · rcases lt_trichotomy T 0 with h3 | rfl | h3
    · simp [h3, h3.ne, lt_asymm h3]
    · simp
    · simp [h3, h3.ne']
  · simp [h, Nat.lt_asymm h, Nat.ne_of_gt h]

/-- `before` at margin 0 in closed form -/
theorem before_of_halves {c d0 a b : V3 ℝ} {i j : Nat} (hi : halfOf realNum 0 c d0 a = some i)
    (hj : halfOf realNum 0 c d0 b = some j) :
    before realNum 0 c d0 a b = lexBefore i j (tri c a b) := by
  unfold before lexBefore
  rw [hi, hj]
  simp only [sgn_zero]
  by_cases h3 : 0 < tri c a b
  · simp only [h3, if_true]
  · by_cases h4 : tri c a b < 0
    · simp only [h3, h4, if_false, if_true]
    · simp only [h3, h4, if_false]

theorem before_ne_none_iff {c d0 a b : V3 ℝ} :
    before realNum 0 c d0 a b ≠ none ↔
      ∃ i j, halfOf realNum 0 c d0 a = some i ∧ halfOf realNum 0 c d0 b = some j ∧
        (i = j → tri c a b ≠ 0) := by
  constructor
  · intro h
    obtain ⟨i, j, hi, hj⟩ := halves_of_before h
    rw [before_of_halves hi hj, lexBefore_ne_none_iff] at h
    exact ⟨i, j, hi, hj, h⟩
  · rintro ⟨i, j, hi, hj, hX⟩
    rw [before_of_halves hi hj, lexBefore_ne_none_iff]
    exact hX

/-! ## the key orders like the comparator; distinct keys and keys in `(0, 2π)` (the hypotheses of
  `order_is_sort`, Props/C18) follow from general position -/

/-- the keys of two centres, each in a defined half turn from the first and not in the same
    direction, compare like half turn, then side -/
theorem keyWith_lt_iff (c n0 s1 s2 : V3 ℝ) (hc : dot c c ≠ 0) {i j : Nat}
    (hi : halfOf realNum 0 c (n0.sub c) (s1.sub c) = some i)
    (hj : halfOf realNum 0 c (n0.sub c) (s2.sub c) = some j)
    (hX : i = j → tri c (s1.sub c) (s2.sub c) ≠ 0) :
    keyWith realNum true c n0 s1 < keyWith realNum true c n0 s2
      ↔ i < j ∨ (i = j ∧ 0 < tri c (s1.sub c) (s2.sub c)) := by
  have hcc : 0 < dot c c := (dot_self_nonneg c).lt_of_ne' hc
  have ht := fun x => tproj_tangent c x hc
  obtain ⟨hzz, huu, e1, u1, h1⟩ := key_point c _ _ hcc (ht _) (ht _) (halfR_tproj c _ _ hcc hi)
  obtain ⟨_, hvv, e2, u2, h2⟩ := key_point c _ _ hcc (ht _) (ht _) (halfR_tproj c _ _ hcc hj)
  have hd := sin_den_pos c hcc huu hvv
  -- `cos·sin' − cos'·sin` of the two points is the side `c·(s1 × s2)` up to a positive factor
  have hcn := cosN_sinN_cross c _ _ _ hcc hzz huu hvv (ht (n0.sub c))
  rw [tri_tproj] at hcn
  rw [keyWith_tangent, keyWith_tangent, e1, e2,
    ang_lt_iff u1 u2 h1 h2 (fun hij => by rw [hcn]; exact div_ne_zero (hX hij) hd.ne'),
    hcn, div_pos_iff_of_pos_right hd]

/-- **the key of the repaired algorithm orders the centres exactly as the specification's
    counter-clockwise comparator** (`Dual.before` with margin 0), whenever that comparator decides
    (both centres in a defined half turn from the first one, not in the same direction). -/
theorem key_lt_iff_before (c n0 s1 s2 : V3 ℝ) (hc : dot c c ≠ 0)
    (hgp : before realNum 0 c (n0.sub c) (s1.sub c) (s2.sub c) ≠ none) :
    keyWith realNum true c n0 s1 < keyWith realNum true c n0 s2
      ↔ before realNum 0 c (n0.sub c) (s1.sub c) (s2.sub c) = some true := by
  obtain ⟨i, j, hi, hj, hX⟩ := before_ne_none_iff.mp hgp
  rw [keyWith_lt_iff c n0 s1 s2 hc hi hj hX, before_of_halves hi hj, lexBefore_eq_true_iff]

theorem keyWith_range (c n0 s : V3 ℝ) (hc : dot c c ≠ 0)
    (h : halfOf realNum 0 c (n0.sub c) (s.sub c) ≠ none) :
    realNum.lt 0 (keyWith realNum true c n0 s) = true ∧
      realNum.lt (keyWith realNum true c n0 s) realNum.twoPi = true := by
  have hcc : 0 < dot c c := (dot_self_nonneg c).lt_of_ne' hc
  obtain ⟨i, hi⟩ := Option.ne_none_iff_exists'.mp h
  obtain ⟨_, _, e, hu, hh⟩ := key_point c _ _ hcc (tproj_tangent c _ hc) (tproj_tangent c _ hc)
    (halfR_tproj c _ _ hcc hi)
  rw [keyWith_tangent, e]
  simp only [realNum, decide_eq_true_eq]
  exact ang_range hu hh

/-- the keys of two centres differ whenever the comparator decides -/
theorem key_ne_of_before (c n0 s1 s2 : V3 ℝ) (hc : dot c c ≠ 0)
    (hgp : before realNum 0 c (n0.sub c) (s1.sub c) (s2.sub c) ≠ none) :
    keyWith realNum true c n0 s1 ≠ keyWith realNum true c n0 s2 := by
  obtain ⟨i, j, hi, hj, hX⟩ := before_ne_none_iff.mp hgp
  have hsw := tri_swap c (s1.sub c) (s2.sub c)
  have h12 := keyWith_lt_iff c n0 s1 s2 hc hi hj hX
  have h21 := keyWith_lt_iff c n0 s2 s1 hc hj hi
    (fun hji => by rw [hsw]; exact neg_ne_zero.mpr (hX hji.symm))
  intro heq
  -- neither key is below the other, so neither centre is before the other: same half turn, side 0
  have n12 := fun h => (h12.mpr h).ne heq
  have n21 := fun h => (h21.mpr h).ne' heq
  have hij : i = j :=
    Nat.le_antisymm (not_lt.mp fun h => n21 (Or.inl h)) (not_lt.mp fun h => n12 (Or.inl h))
  have h1 : tri c (s1.sub c) (s2.sub c) ≤ 0 := not_lt.mp fun h => n12 (Or.inr ⟨hij, h⟩)
  have h2 : tri c (s2.sub c) (s1.sub c) ≤ 0 := not_lt.mp fun h => n21 (Or.inr ⟨hij.symm, h⟩)
  rw [hsw] at h2
  exact hX hij (le_antisymm h1 (neg_nonpos.mp h2))

theorem pairwise_zip_tail {α : Type} {R : α → α → Prop} (l : List α) (h : l.Pairwise R) :
    ∀ p ∈ List.zip l l.tail, R p.1 p.2 := by
  induction l with
  | nil => intro p hp; simp at hp
  | cons a l ih =>
    intro p hp
    have hc := List.pairwise_cons.mp h
    cases l with
    | nil => simp at hp
    | cons b l' =>
      simp only [List.tail_cons, List.zip_cons_cons, List.mem_cons] at hp
      rcases hp with rfl | hp
      · exact hc.1 b List.mem_cons_self
      · exact ih hc.2 p (by simpa using hp)

/-- a ring whose corners all lie in a defined half turn and are pairwise in strict
    counter-clockwise order is accepted by the specification's `ccwSorted` -/
theorem ccwSorted_of (c : V3 ℝ) (cents : List (V3 ℝ)) (first : Int) (vals : List Int)
    (h1 : ∀ f ∈ vals, halfOf realNum 0 c ((vecAt cents first).sub c) ((vecAt cents f).sub c) ≠ none)
    (h2 : vals.Pairwise fun f g =>
      before realNum 0 c ((vecAt cents first).sub c) ((vecAt cents f).sub c) ((vecAt cents g).sub c)
        = some true) :
    ccwSorted realNum 0 c cents (first :: vals) = some true := by
  have hverdict : ∀ (halves : List (Option Nat)) (pairs : List (Option Bool)),
      (∀ o ∈ halves, o ≠ none) → (∀ o ∈ pairs, o = some true) →
      (if halves.any Option.isNone || pairs.any Option.isNone then none
        else some (pairs.all (fun o => o == some true))) = some true := by
    intro halves pairs hh hp
    rw [List.any_eq_false.mpr fun o ho h => hh o ho (Option.isNone_iff_eq_none.mp h),
      List.any_eq_false.mpr fun o ho h => (by rw [hp o ho] at h; cases h),
      List.all_eq_true.mpr fun o ho => (by rw [hp o ho]; rfl)]
    rfl
  unfold ccwSorted
  apply hverdict
  · rw [List.forall_mem_map, List.forall_mem_map]
    exact h1
  · rw [← List.map_tail, List.zip_map, List.forall_mem_map, List.forall_mem_map]
    exact pairwise_zip_tail vals h2

end UxVerif.Dual
