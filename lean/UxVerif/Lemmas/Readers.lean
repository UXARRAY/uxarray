/-
  What the reader models of `Model/Readers.lean` do on encoded input, by reader, in the model's
  order.  UGRID/topology: `FillLocated` -> `replaceFill_enc` (-> `encInt`) -> `startOf_none_enc` ->
  `shift_enc`; the other readers are row-level equations.
-/
import UxVerif.Model.Readers
import UxVerif.Lemmas.SortUniq
import UxVerif.Lemmas.Rows

namespace UxVerif.Readers
open UxVerif

/-! ## lists, `getI?`, `padRow` -/

theorem getElem?_map_mid {α β : Type} (g : α → β) (pre post : List α) (s : α) :
    ((pre ++ s :: post).map g)[pre.length]? = some (g s) := by
  rw [List.getElem?_map, List.getElem?_append_right (Nat.le_refl _), Nat.sub_self]; rfl

theorem map_range_getElem? {α β : Type} (l : List α) (F : Option α → β) :
    (List.range l.length).map (fun i => F l[i]?) = l.map fun a => F (some a) := by
  apply List.ext_getElem
  · rw [List.length_map, List.length_map, List.length_range]
  · intro i h1 h2
    have hi : i < l.length := (List.length_map _).symm ▸ h2
    rw [List.getElem_map, List.getElem_map, List.getElem_range, List.getElem?_eq_getElem hi]

theorem map_range_getD {α β : Type} (l : List α) (d : α) (F : α → β) :
    (List.range l.length).map (fun i => F (l.getD i d)) = l.map F :=
  map_range_getElem? l fun o => F (o.getD d)

theorem length_flatMap_const {α β : Type} (l : List α) (F : α → List β) (c : Nat)
    (h : ∀ x ∈ l, (F x).length = c) : (l.flatMap F).length = l.length * c := by
  induction l with
  | nil => exact (Nat.zero_mul c).symm
  | cons a l ih =>
    rw [List.flatMap_cons, List.length_append, h a List.mem_cons_self,
      ih fun x hx => h x (List.mem_cons_of_mem _ hx), List.length_cons, Nat.succ_mul, Nat.add_comm]

theorem getElem?_flatMap_const {α β : Type} (l : List α) (F : α → List β) (c : Nat)
    (h : ∀ x ∈ l, (F x).length = c) (i j : Nat) (hj : j < c) :
    (l.flatMap F)[i * c + j]? = (l[i]?).bind (fun x => (F x)[j]?) := by
  induction l generalizing i with
  | nil => rfl
  | cons a l ih =>
    have ha := h a List.mem_cons_self
    rw [List.flatMap_cons]
    cases i with
    | zero =>
      rw [Nat.zero_mul, Nat.zero_add, List.getElem?_append_left (ha ▸ hj)]; rfl
    | succ i =>
      rw [Nat.succ_mul, Nat.add_right_comm, ← ha, List.getElem?_append_right (Nat.le_add_left _ _),
        Nat.add_sub_cancel, ha]
      exact ih (fun x hx => h x (List.mem_cons_of_mem _ hx)) i

theorem getI?_fill {α : Type} (l : List α) : getI? l FILL = none :=
  if_pos FILL_neg

theorem getI?_idMap (n v : Nat) (h : v < n) : getI? (idMap n) (Int.ofNat v) = some (Int.ofNat v) := by
  unfold idMap
  rw [getI?_ofNat, List.getElem?_map, List.getElem?_range h]; rfl

theorem padRow_inj (w : Nat) (f g : List Nat) (h : padRow w f = padRow w g) : f = g := by
  have := congrArg faceOf h
  rw [faceOf_padRow, faceOf_padRow] at this
  exact (List.map_inj_right fun a b hab => Int.ofNat.inj hab).mp this

/-! ## `minList`, `nonFill`, `lowest` -/

theorem minList_cons_ne_none (x : Int) (xs : List Int) : minList (x :: xs) ≠ none := by
  unfold minList
  split <;> exact Option.some_ne_none _

theorem minList_spec : ∀ (l : List Int) (m : Int), minList l = some m → m ∈ l ∧ ∀ y ∈ l, m ≤ y := by
  intro l
  induction l with
  | nil => intro m h; cases h
  | cons x xs ih =>
    intro m h
    unfold minList at h
    split at h
    · -- `xs` has no minimum: it is empty
      rename_i hxs
      cases xs with
      | nil =>
        cases h
        exact ⟨List.mem_singleton_self _, fun y hy => Int.le_of_eq (List.mem_singleton.mp hy).symm⟩
      | cons y ys => exact absurd hxs (minList_cons_ne_none y ys)
    · rename_i m' hxs
      obtain ⟨hm', hle⟩ := ih m' hxs
      cases h
      refine ⟨?_, fun y hy => ?_⟩
      · split
        · exact List.mem_cons_self
        · exact List.mem_cons_of_mem _ hm'
      · rcases List.mem_cons.mp hy with rfl | hy'
        · split <;> omega
        · have := hle y hy'
          split <;> omega

theorem minList_eq_some (l : List Int) (a : Int) (ha : a ∈ l) (hle : ∀ x ∈ l, a ≤ x) :
    minList l = some a := by
  cases l with
  | nil => cases ha
  | cons y ys =>
    cases h : minList (y :: ys) with
    | none => exact absurd h (minList_cons_ne_none y ys)
    | some m =>
      obtain ⟨hm, hm2⟩ := minList_spec _ m h
      exact congrArg some (Int.le_antisymm (hm2 a ha) (hle m hm))

theorem mem_nonFill (t : Table) (x : Int) : x ∈ nonFill t ↔ (∃ r ∈ t, x ∈ r) ∧ x ≠ FILL := by
  unfold nonFill
  rw [List.mem_filter, List.mem_flatten, bne_iff_ne]

theorem lowest_spec (m : Mesh) (hne : m.flatten ≠ []) :
    lowest m ∈ m.flatten ∧ ∀ v ∈ m.flatten, lowest m ≤ v := by
  unfold lowest
  cases h : minList (m.flatten.map Int.ofNat) with
  | none =>
    obtain ⟨a, l, hf⟩ := List.exists_cons_of_ne_nil hne
    rw [hf] at h
    exact absurd h (minList_cons_ne_none _ _)
  | some x =>
    obtain ⟨hx, hle⟩ := minList_spec _ _ h
    obtain ⟨v, hv, rfl⟩ := List.mem_map.mp hx
    exact ⟨hv, fun u hu => Int.ofNat_le.mp (hle _ (List.mem_map_of_mem hu))⟩

/-! ## UGRID and topology arrays -/

theorem ofNat_add_ne_FILL (v : Nat) {b : Int} (hb : 0 ≤ b) : Int.ofNat v + b ≠ FILL := by
  have hF := FILL_neg
  have : (0 : Int) ≤ Int.ofNat v := Int.natCast_nonneg v
  omega

theorem cellInt_val {fv : Option Cell} {x : Int} (h : isFillCell fv (.val x) = false) :
    cellInt fv (.val x) = x := by
  unfold cellInt; rw [h]; rfl

theorem cellInt_fill {fv : Option Cell} {c : Cell} (h : isFillCell fv c = true) :
    cellInt fv c = FILL := by
  unfold cellInt; rw [if_pos h]

theorem badCell_val (fv : Option Cell) (x : Int) : badCell fv (.val x) = false := rfl

theorem badCell_fill {fv : Option Cell} {c : Cell} (h : isFillCell fv c = true) :
    badCell fv c = false := by
  unfold badCell; rw [h]; exact Bool.and_false _

/-- the located fill `fv` leaves node numbers alone and, where a row is padded, is the padding -/
def FillLocated (fv : Option Cell) (base : Int) (fill : Fill) (n w : Nat) (m : Mesh) : Prop :=
  (∀ x : Int, base ≤ x → x < base + Int.ofNat n → isFillCell fv (.val x) = false) ∧
  (∀ f ∈ m, f.length < w → isFillCell fv (padCell fill) = true)

theorem fillLocated_fillArgOf {base : Int} {fill : Fill} {n w : Nat} {m : Mesh}
    (h : TopoOK base fill n w m) : FillLocated (fillArgOf fill) base fill n w m := by
  obtain ⟨_, hfill⟩ := h
  cases fill with
  | int v =>
    exact ⟨fun x h1 h2 => beq_eq_false_iff_ne.mpr fun hxv => hfill (hxv ▸ ⟨h1, h2⟩),
      fun _ _ _ => beq_self_eq_true v⟩
  | nan => exact ⟨fun _ _ _ => rfl, fun _ _ _ => rfl⟩
  | nanAttr => exact ⟨fun _ _ _ => rfl, fun _ _ _ => rfl⟩
  | none => exact ⟨fun _ _ _ => rfl, fun f hf hlt => absurd (hfill f hf) (Nat.ne_of_lt hlt)⟩

theorem isFillCell_origFill_val (s : USource) (h : s.fillAttr = none) (x : Int) :
    isFillCell (origFill s) (.val x) = false := by
  simp only [origFill, h]
  split <;> rfl

theorem dialectOK_iff (d : UDialect) (n w : Nat) (m : Mesh) :
    DialectOK d n w m ↔ DialectCore d n w m ∧ (d.declared = false → ∃ f ∈ m, 0 ∈ f) :=
  and_assoc.symm

theorem fillLocated_origFill {d : UDialect} {n w : Nat} {m : Mesh} (hc : DialectCore d n w m) :
    FillLocated (origFill (encodeUgrid d w m)) d.base d.fill n w m := by
  obtain ⟨base, declared, fill, store⟩ := d
  cases fill with
  | int v => exact fillLocated_fillArgOf (fill := .int v) ⟨hc.1, hc.2⟩
  | nanAttr => exact fillLocated_fillArgOf (fill := .nanAttr) ⟨hc.1, trivial⟩
  | nan =>
    refine ⟨fun x _ _ => isFillCell_origFill_val _ rfl x, fun f hf hlt => ?_⟩
    have : origFill (encodeUgrid ⟨base, declared, .nan, store⟩ w m) = some .nan := by
      refine if_pos (List.any_eq_true.mpr ⟨encRow base .nan w f, List.mem_map_of_mem hf, ?_⟩)
      refine List.any_eq_true.mpr ⟨Cell.nan, List.mem_append_right _ ?_, rfl⟩
      exact List.mem_replicate.mpr ⟨by omega, rfl⟩
    rw [this]; rfl
  | none =>
    exact ⟨fun x _ _ => isFillCell_origFill_val _ rfl x,
      fun f hf hlt => absurd (hc.2 f hf) (Nat.ne_of_lt hlt)⟩

/-- the integer table of an encoded source, padding already `FILL` -/
def encInt (b : Int) (w : Nat) (m : Mesh) : Table :=
  m.map fun f => f.map (fun v => Int.ofNat v + b) ++ List.replicate (w - f.length) FILL

theorem replaceFill_enc {fv : Option Cell} {base : Int} {fill : Fill} {n w : Nat} {m : Mesh}
    (hm : WFMesh n w m) (h : FillLocated fv base fill n w m) :
    replaceFill fv (m.map (encRow base fill w)) = encInt base w m ∧
      hasBad fv (m.map (encRow base fill w)) = false := by
  have hreal : ∀ f ∈ m, ∀ v ∈ f, isFillCell fv (.val (Int.ofNat v + base)) = false := by
    intro f hf v hv
    have hv' : Int.ofNat v < Int.ofNat n := Int.ofNat_lt.mpr ((hm f hf).2.2 v hv)
    have h0 : (0 : Int) ≤ Int.ofNat v := Int.natCast_nonneg v
    exact h.1 _ (by omega) (by omega)
  unfold replaceFill hasBad encInt
  constructor
  · rw [List.map_map]
    apply List.map_congr_left
    intro f hf
    unfold encRow
    rw [Function.comp, List.map_append, List.map_map, List.map_replicate]
    congr 1
    · exact List.map_congr_left fun v hv => cellInt_val (hreal f hf v hv)
    · rcases Nat.eq_zero_or_pos (w - f.length) with h0 | hpos
      · rw [h0]; rfl
      · rw [cellInt_fill (h.2 f hf (Nat.lt_of_sub_pos hpos))]
  · rw [List.any_eq_false]
    intro r hr
    obtain ⟨f, hf, rfl⟩ := List.mem_map.mp hr
    rw [Bool.not_eq_true, List.any_eq_false]
    intro c hc
    rw [Bool.not_eq_true]
    rcases List.mem_append.mp hc with hc | hc
    · obtain ⟨v, _, rfl⟩ := List.mem_map.mp hc
      exact badCell_val fv _
    · obtain ⟨hpos, rfl⟩ := List.mem_replicate.mp hc
      exact badCell_fill (h.2 f hf (by omega))

theorem startOf_none_enc (b : Int) (hb : 0 ≤ b) (w : Nat) (m : Mesh) (hne : m.flatten ≠ []) :
    startOf none (encInt b w m) = Int.ofNat (lowest m) + b := by
  obtain ⟨hmem, hle⟩ := lowest_spec m hne
  unfold encInt
  refine congrArg (·.getD 0) (minList_eq_some _ _ ?_ ?_)
  · obtain ⟨f, hf, hvf⟩ := List.mem_flatten.mp hmem
    exact (mem_nonFill _ _).mpr ⟨⟨_, List.mem_map_of_mem hf,
      List.mem_append_left _ (List.mem_map_of_mem hvf)⟩, ofNat_add_ne_FILL _ hb⟩
  · intro x hx
    obtain ⟨⟨r, hr, hxr⟩, hnf⟩ := (mem_nonFill _ _).mp hx
    obtain ⟨f, hf, rfl⟩ := List.mem_map.mp hr
    rcases List.mem_append.mp hxr with h | h
    · obtain ⟨v, hv, rfl⟩ := List.mem_map.mp h
      exact Int.add_le_add_right (Int.ofNat_le.mpr (hle v (List.mem_flatten.mpr ⟨f, hf, hv⟩))) b
    · exact absurd (List.mem_replicate.mp h).2 hnf

theorem shiftRow_append (s : Int) (a b : List Int) :
    shiftRow s (a ++ b) = shiftRow s a ++ shiftRow s b :=
  List.map_append

theorem shiftRow_fill (s : Int) (k : Nat) :
    shiftRow s (List.replicate k FILL) = List.replicate k FILL := by
  unfold shiftRow
  rw [List.map_replicate, if_pos rfl]

-- the declared-base case `k = 0`
theorem rebase_zero (m : Mesh) : rebase 0 m = m :=
  (List.map_congr_left fun f _ => List.map_id' f).trans (List.map_id' m)

/-- The integer table shifted by the declared or inferred base is `pad w` of the mesh rebased at
    `k`; `s` matters only once some row has a node (`hs`, from `startOf_none_enc` when undeclared). -/
theorem shift_enc (s b : Int) (hb : 0 ≤ b) (k w : Nat) (m : Mesh)
    (hs : m.flatten ≠ [] → s = Int.ofNat k + b) (hk : ∀ v ∈ m.flatten, k ≤ v) :
    shift s (encInt b w m) = pad w (rebase k m) := by
  unfold shift pad rebase encInt
  rw [List.map_map, List.map_map]
  refine List.map_congr_left fun f hf => ?_
  rw [Function.comp, Function.comp, shiftRow_append, shiftRow_fill]
  unfold shiftRow padRow
  rw [List.map_map, List.map_map, List.length_map]
  refine congrArg (· ++ _) (List.map_congr_left fun v hv => ?_)
  have hvm : v ∈ m.flatten := List.mem_flatten.mpr ⟨f, hf, hv⟩
  have := hk v hvm
  rw [Function.comp, Function.comp, if_neg (ofNat_add_ne_FILL v hb), hs (List.ne_nil_of_mem hvm)]
  simp only [Int.ofNat_eq_natCast]
  omega

/-! ## MPAS, ESMF, Exodus rows -/

theorem zeroOne_real (v : Nat) : zeroOne (Int.ofNat v + 1) = Int.ofNat v := by
  have h0 : (0 : Int) ≤ Int.ofNat v := Int.natCast_nonneg v
  unfold zeroOne
  simp only [if_neg (show Int.ofNat v + 1 ≠ 0 by omega),
    if_neg (ofNat_add_ne_FILL v Int.one_nonneg)]
  exact Int.add_sub_cancel _ 1

theorem zeroOne_zero : zeroOne 0 = FILL := by decide +kernel

theorem zeroOne_fill : zeroOne FILL = FILL := by decide +kernel

theorem replacePadding_append {a : List Int} {k : Nat} (h : a.length = k) (tail : List Int) :
    replacePadding (a ++ tail) k = a ++ List.replicate tail.length FILL := by
  unfold replacePadding
  rw [List.take_left' h, List.length_append, h, Nat.add_sub_cancel_left]

theorem decodeMpasRow_append {a : List Int} {k : Nat} (h : a.length = k) (tail : List Int) :
    decodeMpasRow (a ++ tail) k = a.map zeroOne ++ List.replicate tail.length FILL := by
  unfold decodeMpasRow
  rw [replacePadding_append h, List.map_append, List.map_replicate, zeroOne_fill]

theorem decodeEsmfRow_append {a : List Int} {k : Nat} (h : a.length = k) (s : Int)
    (tail : List Int) :
    decodeEsmfRow s (a ++ tail) k = a.map (· - s) ++ List.replicate tail.length FILL := by
  unfold decodeEsmfRow
  rw [List.take_left' h, List.length_append, h, Nat.add_sub_cancel_left]

theorem maxLen_eq {α : Type} (l : List (List α)) :
    maxLen l = (l.map List.length).foldl max 0 := by
  unfold maxLen; rw [List.foldl_map]

theorem maxLen_map {α β : Type} (g : List α → List β) (hg : ∀ f, (g f).length = f.length)
    (l : List (List α)) : maxLen (l.map g) = maxLen l := by
  rw [maxLen_eq, maxLen_eq, List.map_map]
  exact congrArg (List.foldl max 0) (List.map_congr_left fun f _ => hg f)

/-! ## GEOS lattice -/

theorem length_slab {β : Type} (a b : Nat) (F : Nat → Nat → β) :
    ((List.range a).flatMap fun i => (List.range b).map (F i)).length = a * b := by
  rw [length_flatMap_const _ _ b fun i _ => by rw [List.length_map, List.length_range],
    List.length_range]

/-- the lattice cells `(f, i, j)` in the order `gslab` enumerates them; `slab_eq_map` makes every
    `gslab` a map over this one list -/
def positions (nf a b : Nat) : List (Nat × Nat × Nat) :=
  (List.range nf).flatMap fun f => (List.range a).flatMap fun i => (List.range b).map fun j => (f, i, j)

theorem slab_eq_map {β : Type} (nf a b : Nat) (F : Nat → Nat → Nat → β) :
    ((List.range nf).flatMap fun f => (List.range a).flatMap fun i => (List.range b).map (F f i))
      = (positions nf a b).map fun c => F c.1 c.2.1 c.2.2 := by
  unfold positions
  simp only [List.map_flatMap, List.map_map]
  rfl

theorem gidx_range {nf nx ny f a b : Nat} (hf : f < nf) (ha : a < nx) (hb : b < ny) :
    0 ≤ gidx nx ny f a b ∧ gidx nx ny f a b < Int.ofNat (nf * (nx * ny)) := by
  have h1 : (a + 1) * ny ≤ nx * ny := Nat.mul_le_mul_right _ ha
  have h2 : (f + 1) * (nx * ny) ≤ nf * (nx * ny) := Nat.mul_le_mul_right _ hf
  rw [Nat.succ_mul] at h1 h2
  exact ⟨Int.natCast_nonneg _, Int.ofNat_lt.mpr (by omega)⟩

theorem gidx_succ_right (nx ny f a b : Nat) : gidx nx ny f a (b + 1) - gidx nx ny f a b = 1 := by
  unfold gidx
  simp only [Int.ofNat_eq_natCast]
  omega

theorem gidx_succ_left (nx ny f a b : Nat) :
    gidx nx ny f (a + 1) b - gidx nx ny f a b = Int.ofNat ny := by
  unfold gidx
  rw [Nat.succ_mul]
  simp only [Int.ofNat_eq_natCast]
  omega

/-! ## SCRIP rows -/

theorem rank_ne_neg_one {α : Type} [BEq α] (l : List α) (k : α) : rank l k ≠ -1 :=
  fun h => nomatch h

theorem mem_scripNodes (corners : List (List Key)) (k : Key) :
    k ∈ scripNodes corners ↔ ∃ r ∈ corners, k ∈ r := by
  unfold scripNodes
  rw [mem_uniqPair, List.mem_flatten]

/-- cf. `Encode.collapseRow_pad`, the same fact about C07's model of this repair -/
theorem scripPad_run (pre : List Int) (y : Int) (k : Nat) (hpre : pre.getLast? ≠ some y) :
    scripPad (pre ++ List.replicate (k + 1) y) = pre ++ [y] ++ List.replicate k (-1) := by
  have hlast : (pre ++ List.replicate (k + 1) y).getLastD 0 = y := by
    rw [List.replicate_succ', ← List.append_assoc, List.getLastD_concat]
  have htw : pre.reverse.takeWhile (fun x => x == y) = [] := by
    cases hr : pre.reverse with
    | nil => rfl
    | cons b rest =>
      have hb : pre.getLast? = some b := by rw [← List.head?_reverse, hr]; rfl
      exact List.takeWhile_cons_of_neg fun h => hpre (beq_iff_eq.mp h ▸ hb)
  have hrun : lastRun (pre ++ List.replicate (k + 1) y) = k + 1 := by
    unfold lastRun
    rw [hlast, List.reverse_append, List.reverse_replicate,
      List.takeWhile_append_of_pos (fun _ ha => beq_iff_eq.mpr (List.eq_of_mem_replicate ha)),
      htw, List.append_nil,
      List.length_replicate]
  have hsplit : pre ++ List.replicate (k + 1) y = (pre ++ [y]) ++ List.replicate k y := by
    rw [List.replicate_succ, List.append_cons]
  unfold scripPad
  rw [hrun, Nat.add_sub_cancel, hsplit, List.length_append, List.length_replicate,
    Nat.add_sub_cancel, List.take_left]

theorem lastDistinct_concat {g : List Key} {a c : Key} (hd : LastDistinct (g ++ [a]) = true)
    (hc : g.getLast? = some c) : a ≠ c := by
  obtain ⟨g', rfl⟩ := List.getLast?_eq_some_iff.mp hc
  unfold LastDistinct at hd
  rw [List.reverse_append, List.reverse_append] at hd
  exact bne_iff_ne.mp hd

/-- the encoded row decoded and every entry looked up in the node list: the face's corners, then
    `none`s (the row-level form of `FacesOK` through `nodeMap`) -/
theorem scrip_row (nodes : List Key) (w : Nat) (f : List Key) (hne : f ≠ [])
    (hd : LastDistinct f = true) (hmem : ∀ k ∈ f, k ∈ nodes) :
    ((scripPad ((encScripRow w f).map (rank nodes))).map (fun x => if x = -1 then FILL else x)).map
        (getI? nodes)
      = f.map some ++ List.replicate (w - f.length) none := by
  obtain ⟨g, a, rfl⟩ : ∃ g a, f = g ++ [a] :=
    ⟨_, _, (List.dropLast_concat_getLast hne).symm⟩
  unfold encScripRow
  generalize w - (g ++ [a]).length = k
  -- the last corner of `g` differs from `a`, and `rank` is injective
  have hpre : (g.map (rank nodes)).getLast? ≠ some (rank nodes a) := by
    intro hb
    rw [List.getLast?_map] at hb
    obtain ⟨c, hc, heq⟩ := Option.map_eq_some_iff.mp hb
    have hcg : c ∈ g ++ [a] := List.mem_append_left _ (List.mem_of_getLast? hc)
    exact lastDistinct_concat hd hc
      (rank_inj nodes a c (hmem a (List.mem_append_right _ (List.mem_singleton_self a)))
        (hmem c hcg) heq.symm)
  have hkey : ∀ kk ∈ g ++ [a],
      getI? nodes (if rank nodes kk = -1 then FILL else rank nodes kk) = some kk := by
    intro kk hkk
    rw [if_neg (rank_ne_neg_one nodes kk)]
    exact getI?_rank nodes kk (hmem kk hkk)
  rw [List.getLastD_concat, List.map_append, List.map_replicate, List.map_append,
    List.map_singleton, List.append_assoc, List.singleton_append, ← List.replicate_succ,
    scripPad_run _ _ _ hpre, ← List.map_singleton, ← List.map_append]
  rw [List.map_append, List.map_append, List.map_map, List.map_map, List.map_replicate,
    List.map_replicate]
  exact congr (congrArg _ (List.map_congr_left hkey)) (congrArg _ (getI?_fill nodes))

/-! ## polygon rings -/

/-- as `scrip_row`, for one ring -/
theorem ringRow_positions {α : Type} (w : Nat) (pre r rest : List α) :
    (ringRow w pre.length r.length).map (getI? (pre ++ r ++ rest))
      = r.map some ++ List.replicate (w - r.length) none := by
  unfold ringRow
  rw [List.map_append, List.map_map, List.map_replicate, getI?_fill,
    ← map_range_getElem? r fun o => o]
  refine congrArg (· ++ _) (List.map_congr_left fun j hj => ?_)
  have hj' : j < r.length := List.mem_range.mp hj
  rw [Function.comp, getI?_ofNat, List.append_assoc,
    List.getElem?_append_right (Nat.le_add_right _ _), Nat.add_sub_cancel_left,
    List.getElem?_append_left hj']

theorem ringsGo_positions {α : Type} (w : Nat) (pre : List α) (rings : List (List α)) :
    (ringsGo w pre.length (rings.map List.length)).map (·.map (getI? (pre ++ rings.flatten)))
      = rings.map (fun r => r.map some ++ List.replicate (w - r.length) none) := by
  induction rings generalizing pre with
  | nil => rfl
  | cons r rings ih =>
    simp only [List.map_cons, ringsGo, List.flatten_cons]
    congr 1
    · rw [← List.append_assoc]; exact ringRow_positions w pre r _
    · have := ih (pre ++ r)
      rw [List.length_append, List.append_assoc] at this
      exact this

/-! ## face-vertex arrays -/

/-- `false_indices` when exactly one entry is bad -/
theorem filter_range_single (n i0 : Nat) (P : Nat → Bool) (h0 : i0 < n) (hP : P i0 = true)
    (hu : ∀ i, i < n → P i = true → i = i0) : (List.range n).filter P = [i0] := by
  have hPeq : ∀ i ∈ List.range n, P i = (i == i0) := fun i hi =>
    Bool.eq_iff_iff.mpr ⟨fun hp => beq_iff_eq.mpr (hu i (List.mem_range.mp hi) hp),
      fun he => beq_iff_eq.mp he ▸ hP⟩
  rw [List.filter_congr hPeq, List.filter_beq, List.count_range, if_pos h0]
  rfl

theorem dropIdx_eq (i0 : Nat) : dropIdx (Int.ofNat i0) (Int.ofNat i0) = FILL :=
  if_pos rfl

theorem dropIdx_gt (i0 j : Nat) (h : j > i0) :
    dropIdx (Int.ofNat i0) (Int.ofNat j) = Int.ofNat (j - 1) := by
  have hF := FILL_neg
  unfold dropIdx
  simp only [Int.ofNat_eq_natCast]
  rw [if_neg (by omega), if_pos (by omega)]
  omega

theorem dropIdx_lt (i0 j : Nat) (h : j < i0) :
    dropIdx (Int.ofNat i0) (Int.ofNat j) = Int.ofNat j := by
  unfold dropIdx
  simp only [Int.ofNat_eq_natCast]
  rw [if_neg (by omega), if_neg (by omega)]

theorem getI?_eraseIdx_dropIdx {α : Type} (l : List α) (i0 j : Nat) (hne : j ≠ i0) :
    getI? (l.eraseIdx i0) (dropIdx (Int.ofNat i0) (Int.ofNat j)) = l[j]? := by
  rcases Nat.lt_or_gt_of_ne hne with hlt | hgt
  · rw [dropIdx_lt _ _ hlt, getI?_ofNat, List.getElem?_eraseIdx, if_pos hlt]
  · rw [dropIdx_gt _ _ hgt, getI?_ofNat, List.getElem?_eraseIdx, if_neg (by omega),
      Nat.sub_add_cancel (by omega)]

/-- the padding vertex `encVertsRow` appends -/
def K0 : Key := (FILL, FILL)

theorem isFillKey_K0 : isFillKey K0 = true := rfl

/-! ## format sniffing -/

/-- one test of a first-match chain (`sniff`), read from the result `r` -/
theorem firstMatch_ne {α : Type} {c : Bool} {a e r : α} (h : a ≠ r) :
    (if c then a else e) = r ↔ c = false ∧ e = r := by
  cases c
  · simp
  · simp [h]

theorem firstMatch_eq {α : Type} {c : Bool} {e r : α} :
    (if c then r else e) = r ↔ c = true ∨ e = r := by
  cases c
  · simp
  · simp

end UxVerif.Readers
