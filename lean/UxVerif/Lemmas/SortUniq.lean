/-
  `insUniq` / `sortUniqBy` (the model of `np.unique`): members, strictly sorted output
  (`SortedBy`, with its decision procedure, `sortedBy_filter`, `sortedBy_getElem`, and
  `sortedBy_ext`: a strictly sorted list is determined by its members), the two orders used
  (`pairLt`, `intLt`), and positions in a filtered list (`filter_index`, the model of the
  `searchsorted` renumbering).  Core Lean only.
-/
import UxVerif.Model.Basic

namespace UxVerif
variable {α : Type} [DecidableEq α]

theorem mem_insUniq (lt : α → α → Bool) (x a : α) (l : List α) :
    a ∈ insUniq lt x l ↔ a = x ∨ a ∈ l := by
  induction l with
  | nil => simp [insUniq]
  | cons y ys ih =>
    unfold insUniq
    by_cases h1 : lt x y = true
    · simp [h1]
    · by_cases h2 : x = y
      · subst h2; simp [h1]
      · simp [h1, h2, ih]
        constructor
        · rintro (h | h | h) <;> simp [h]
        · rintro (h | h | h) <;> simp [h]

theorem mem_sortUniqBy (lt : α → α → Bool) (a : α) (l : List α) :
    a ∈ sortUniqBy lt l ↔ a ∈ l := by
  induction l with
  | nil => simp [sortUniqBy]
  | cons y ys ih =>
    have : sortUniqBy lt (y :: ys) = insUniq lt y (sortUniqBy lt ys) := rfl
    rw [this, mem_insUniq, ih]; simp

/-- the laws of a strict total order given as a `Bool` relation -/
structure StrictTotal (lt : α → α → Bool) : Prop where
  irrefl : ∀ a, lt a a = false
  trans : ∀ a b c, lt a b = true → lt b c = true → lt a c = true
  tri : ∀ a b, lt a b = false → a ≠ b → lt b a = true

def SortedBy (lt : α → α → Bool) (l : List α) : Prop := l.Pairwise (fun a b => lt a b = true)

section
variable {α : Type}

instance (lt : α → α → Bool) (l : List α) : Decidable (SortedBy lt l) := by
  unfold SortedBy; infer_instance

end

omit [DecidableEq α] in
/-- dropping rows (`edge_nodes_unique[non_fill_value_mask]`) keeps the order -/
theorem sortedBy_filter {lt : α → α → Bool} (p : α → Bool) {l : List α} (h : SortedBy lt l) :
    SortedBy lt (l.filter p) := List.Pairwise.filter p h

omit [DecidableEq α] in
/-- index form of sortedness: earlier position, smaller element -/
theorem sortedBy_getElem {lt : α → α → Bool} {l : List α} (h : SortedBy lt l)
    (i j : Nat) (hij : i < j) (hj : j < l.length) :
    lt (l[i]'(Nat.lt_trans hij hj)) l[j] = true :=
  (List.pairwise_iff_getElem.mp h) i j (Nat.lt_trans hij hj) hj hij

theorem sorted_insUniq {lt : α → α → Bool} (h : StrictTotal lt) (x : α) (l : List α)
    (hs : SortedBy lt l) : SortedBy lt (insUniq lt x l) := by
  induction l with
  | nil => simp [insUniq, SortedBy]
  | cons y ys ih =>
    unfold insUniq
    have hy := List.pairwise_cons.mp hs
    by_cases h1 : lt x y = true
    · simp only [h1, if_true]
      refine List.pairwise_cons.mpr ⟨?_, hs⟩
      intro b hb
      rcases List.mem_cons.mp hb with rfl | hb
      · exact h1
      · exact h.trans _ _ _ h1 (hy.1 b hb)
    · by_cases h2 : x = y
      · subst h2; simp only [h1]; simpa using hs
      · simp only [h1, h2, if_false]
        refine List.pairwise_cons.mpr ⟨?_, ih hy.2⟩
        intro b hb
        rcases (mem_insUniq lt x b ys).mp hb with rfl | hb
        · exact h.tri _ _ (by simpa using h1) h2
        · exact hy.1 b hb

theorem sorted_sortUniqBy {lt : α → α → Bool} (h : StrictTotal lt) (l : List α) :
    SortedBy lt (sortUniqBy lt l) := by
  induction l with
  | nil => simp [sortUniqBy, SortedBy]
  | cons y ys ih => exact sorted_insUniq h y _ ih

omit [DecidableEq α] in
theorem nodup_of_sorted {lt : α → α → Bool} (h : StrictTotal lt) (l : List α)
    (hs : SortedBy lt l) : l.Nodup := by
  unfold SortedBy at hs
  refine List.Pairwise.imp ?_ hs
  intro a b hab heq
  subst heq
  rw [h.irrefl] at hab
  cases hab

omit [DecidableEq α] in
/-- a strictly sorted list is determined by its set of members -/
theorem sortedBy_ext {lt : α → α → Bool} (h : StrictTotal lt) {l₁ l₂ : List α}
    (h1 : SortedBy lt l₁) (h2 : SortedBy lt l₂) (hm : ∀ a, a ∈ l₁ ↔ a ∈ l₂) : l₁ = l₂ := by
  refine ((List.perm_ext_iff_of_nodup (nodup_of_sorted h _ h1) (nodup_of_sorted h _ h2)).mpr hm
    ).eq_of_pairwise ?_ h1 h2
  intro a b _ _ hab hba
  have := h.trans a b a hab hba
  rw [h.irrefl] at this
  cases this

theorem nodup_sortUniqBy {lt : α → α → Bool} (h : StrictTotal lt) (l : List α) :
    (sortUniqBy lt l).Nodup := nodup_of_sorted h _ (sorted_sortUniqBy h l)

theorem pairLt_iff (a b : Int × Int) :
    pairLt a b = true ↔ a.1 < b.1 ∨ (a.1 = b.1 ∧ a.2 < b.2) := by
  simp only [pairLt, Bool.or_eq_true, Bool.and_eq_true, decide_eq_true_eq]

theorem pairLt_strictTotal : StrictTotal pairLt := by
  refine ⟨fun a => ?_, fun a b c => ?_, fun a b h1 h2 => ?_⟩
  · refine Bool.eq_false_iff.mpr fun h => ?_
    rcases (pairLt_iff a a).mp h with h | ⟨_, h⟩ <;> exact Int.lt_irrefl _ h
  · rw [pairLt_iff, pairLt_iff, pairLt_iff]
    rintro (h | ⟨e, h⟩) (h' | ⟨e', h'⟩)
    · exact Or.inl (Int.lt_trans h h')
    · exact Or.inl (e' ▸ h)
    · exact Or.inl (by rw [e]; exact h')
    · exact Or.inr ⟨e.trans e', Int.lt_trans h h'⟩
  · have h1' : ¬ (a.1 < b.1 ∨ (a.1 = b.1 ∧ a.2 < b.2)) :=
      fun h => Bool.eq_false_iff.mp h1 ((pairLt_iff a b).mpr h)
    rw [pairLt_iff]
    rcases Int.lt_trichotomy a.1 b.1 with h | h | h
    · exact absurd (Or.inl h) h1'
    · rcases Int.lt_trichotomy a.2 b.2 with g | g | g
      · exact absurd (Or.inr ⟨h, g⟩) h1'
      · exact absurd (Prod.ext h g) h2
      · exact Or.inr ⟨h.symm, g⟩
    · exact Or.inl h

theorem intLt_strictTotal : StrictTotal intLt := by
  refine ⟨?_, ?_, ?_⟩
  · intro a; simp [intLt]
  · intro a b c; simp only [intLt, decide_eq_true_eq]; omega
  · intro a b; simp only [intLt, decide_eq_true_eq, decide_eq_false_iff_not]; omega

theorem mem_uniqPair (a) (l : List (Int × Int)) : a ∈ uniqPair l ↔ a ∈ l := mem_sortUniqBy _ _ _
theorem nodup_uniqPair (l : List (Int × Int)) : (uniqPair l).Nodup :=
  nodup_sortUniqBy pairLt_strictTotal l
theorem mem_uniqInt (a) (l : List Int) : a ∈ uniqInt l ↔ a ∈ l := mem_sortUniqBy _ _ _
theorem nodup_uniqInt (l : List Int) : (uniqInt l).Nodup :=
  nodup_sortUniqBy intLt_strictTotal l

/-! ### position of an element inside a filtered list -/

/-- A kept element sits in the filtered list at its old (first) position minus the number
    of dropped elements at positions `≤` it.  This is the fact the
    `searchsorted(side='right')` renumbering of `inverse_indices` relies on. -/
theorem filter_index {β : Type} [BEq β] [LawfulBEq β] (bad : β → Bool) (u : List β) (p : β)
    (hp : p ∈ u) (hgood : bad p = false) :
    (u.filter (fun q => !bad q))[u.idxOf p - ((u.take (u.idxOf p + 1)).filter bad).length]?
      = some p := by
  have hi : u.idxOf p < u.length := List.idxOf_lt_length_iff.mpr hp
  -- `u` is `pre ++ p :: post` with `pre` the `idxOf p` entries before the first `p`
  have htake : u.take (u.idxOf p + 1) = u.take (u.idxOf p) ++ [p] := by
    rw [List.take_succ_eq_append_getElem hi, List.getElem_idxOf]
  have hsplit : u = u.take (u.idxOf p) ++ p :: u.drop (u.idxOf p + 1) := by
    conv => lhs; rw [← List.take_append_drop (u.idxOf p + 1) u, htake, List.append_assoc]
    rfl
  have hlen : (u.take (u.idxOf p)).length = u.idxOf p := List.length_take_of_le (Nat.le_of_lt hi)
  generalize u.take (u.idxOf p) = pre at htake hsplit hlen
  generalize u.drop (u.idxOf p + 1) = post at hsplit
  -- the dropped entries before `p` and the kept ones make up `pre`
  have hpart : pre.length = (pre.filter bad).length + (pre.filter (fun q => !bad q)).length := by
    have e : (fun q => !bad q) = (fun q => decide ¬ bad q = true) := by
      funext q; cases bad q <;> rfl
    rw [e, ← List.countP_eq_length_filter, ← List.countP_eq_length_filter]
    exact List.length_eq_countP_add_countP bad
  have hidx : u.idxOf p - ((u.take (u.idxOf p + 1)).filter bad).length
      = (pre.filter (fun q => !bad q)).length := by
    rw [htake, List.filter_append, List.filter_cons_of_neg (by rw [hgood]; exact Bool.false_ne_true), List.filter_nil,
      List.append_nil, ← hlen]
    omega
  rw [hidx]
  conv => lhs; arg 1; rw [hsplit, List.filter_append, List.filter_cons_of_pos (by rw [hgood]; rfl)]
  rw [List.getElem?_append_right (Nat.le_refl _), Nat.sub_self]
  rfl

end UxVerif
