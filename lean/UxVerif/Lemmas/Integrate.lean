/-
  Lemmas for C06: the dispatch of `integrate`, the weighted sum `dot`, the reshape `rowsOf` and
  `integrateData`, `ravel`, re-indexing by a permutation, the special values `ExtVal`.  What needs
  no algebra is stated for any `+`, `*`, `0`, so that it holds at `ExtVal`.
-/
import Mathlib.Tactic.Ring
import UxVerif.Model.Integrate

namespace UxVerif.Integrate

section Dispatch
variable {K : Type}

theorem ne_face_of_nodeOrEdge {a : Arr K} (h : NodeOrEdge a) : a.dims.getLast? ≠ some Dim.face :=
  fun hf => by rcases h with h | h <;> cases h.symm.trans hf

theorem ne_face_of_nonGridName {a : Arr K} (h : NonGridName a) :
    a.dims.getLast? ≠ some Dim.face := fun hf => by
  rw [NonGridName, hf] at h
  cases h

variable [Add K] [Mul K] [OfNat K 0]

/-- `integrate` returns an array exactly when the last dimension is NAMED `n_face` and has the
    grid's face count, and what it returns then is `result` -/
theorem integrate_eq_ok_iff (g : Grid) (areas : List K) (a r : Arr K) :
    integrate g areas a = .ok r ↔
      a.dims.getLast? = some Dim.face ∧ a.shape.getLast? = some g.nFace ∧ result areas a = r := by
  constructor
  · intro h
    unfold integrate at h
    split at h
    · split at h
      · exact ⟨‹_›, ‹_›, Outcome.ok.inj h⟩
      · cases h
    all_goals cases h
  · rintro ⟨hd, hs, rfl⟩
    simp only [integrate, hd, hs, if_true]

theorem integrate_accepts (g : Grid) (areas : List K) (a : Arr K) (h : FaceCentred g a) :
    integrate g areas a = .ok (result areas a) :=
  (integrate_eq_ok_iff g areas a _).mpr ⟨h.1, h.2.1, rfl⟩

theorem integrate_error_of_ne_face (g : Grid) (areas : List K) (a : Arr K)
    (h : a.dims.getLast? ≠ some Dim.face) : ∃ e, integrate g areas a = .error e := by
  cases hi : integrate g areas a with
  | ok r => exact absurd ((integrate_eq_ok_iff g areas a r).mp hi).1 h
  | error e => exact ⟨e, rfl⟩

end Dispatch

section Nil
variable {K : Type} [Add K] [Mul K] [OfNat K 0]

@[simp] theorem dot_nil_left (r : List K) : dot ([] : List K) r = 0 := by
  cases r <;> rfl

@[simp] theorem dot_nil_right (a : List K) : dot a ([] : List K) = 0 := by
  cases a <;> rfl

end Nil

section Semiring
variable {K : Type} [CommSemiring K]

@[simp] theorem dot_cons (x y : K) (a r : List K) : dot (x :: a) (y :: r) = x * y + dot a r := rfl

theorem dot_add (a r1 r2 : List K) (h : r1.length = r2.length) :
    dot a (List.zipWith (· + ·) r1 r2) = dot a r1 + dot a r2 := by
  induction a generalizing r1 r2 with
  | nil => simp
  | cons x a ih =>
    cases r1 <;> cases r2 <;> simp at h
    · simp
    · simp only [List.zipWith_cons_cons, dot_cons, ih _ _ h]
      ring

theorem dot_smul (c : K) (a r : List K) : dot a (r.map (c * ·)) = c * dot a r := by
  induction a generalizing r with
  | nil => simp
  | cons x a ih =>
    cases r with
    | nil => simp
    | cons y r =>
      simp only [List.map_cons, dot_cons, ih]
      ring

theorem dot_ones (a : List K) : dot a (List.replicate a.length (1 : K)) = sumL a := by
  induction a with
  | nil => rfl
  | cons x a ih => simp only [List.length_cons, List.replicate_succ, dot_cons, sumL, ih, mul_one]

theorem dot_eq_sum_zip (a r : List K) : dot a r = sumL ((a.zip r).map (fun q => q.1 * q.2)) := by
  induction a generalizing r with
  | nil => simp [sumL]
  | cons x a ih =>
    cases r with
    | nil => simp [sumL]
    | cons y r => simp only [List.zip_cons_cons, List.map_cons, dot_cons, sumL, ih]

theorem sumL_append (l l' : List K) : sumL (l ++ l') = sumL l + sumL l' := by
  induction l with
  | nil => exact (zero_add _).symm
  | cons x l ih => simp only [List.cons_append, sumL, ih, add_assoc]

theorem sumL_perm {l l' : List K} (h : l.Perm l') : sumL l = sumL l' := by
  induction h with
  | nil => rfl
  | cons x _ ih => simp only [sumL, ih]
  | swap x y l => simp only [sumL]; ring
  | trans _ _ ih1 ih2 => rw [ih1, ih2]

/-- **the weighted sum only depends on the multiset of (area, value) pairs** -/
theorem dot_perm {a r a' r' : List K} (h : (a.zip r).Perm (a'.zip r')) : dot a r = dot a' r' := by
  rw [dot_eq_sum_zip, dot_eq_sum_zip]
  exact sumL_perm (h.map _)

end Semiring

section Rows
variable {K : Type}

theorem rowsOf_eq_map (m n : Nat) (l : List K) : rowsOf m n l = (List.range m).map (rowAt n l) := by
  induction m generalizing l with
  | zero => rfl
  | succ m ih =>
    rw [rowsOf, ih, List.range_succ_eq_map, List.map_cons, List.map_map]
    congr 1
    · simp [rowAt]
    · refine List.map_congr_left fun i _ => ?_
      simp only [Function.comp, rowAt, List.drop_drop, Nat.succ_mul]
      congr 2
      omega

@[simp] theorem rowsOf_length (m n : Nat) (l : List K) : (rowsOf m n l).length = m := by
  rw [rowsOf_eq_map, List.length_map, List.length_range]

theorem rowsOf_getElem? (m n : Nat) (l : List K) (i : Nat) (hi : i < m) :
    (rowsOf m n l)[i]? = some (rowAt n l i) := by
  rw [rowsOf_eq_map, List.getElem?_map, List.getElem?_range hi]
  rfl

theorem rowsOf_map {L : Type} (f : K → L) (m n : Nat) (l : List K) :
    rowsOf m n (l.map f) = (rowsOf m n l).map (List.map f) := by
  simp only [rowsOf_eq_map, List.map_map]
  exact List.map_congr_left fun i _ => by simp only [Function.comp, rowAt, List.map_take, List.map_drop]

theorem rowAt_length (n : Nat) (l : List K) (i m : Nat) (h : l.length = m * n) (hi : i < m) :
    (rowAt n l i).length = n := by
  have := Nat.mul_le_mul_right n (Nat.succ_le_of_lt hi)
  rw [Nat.succ_mul] at this
  rw [rowAt, List.length_take, List.length_drop, h]
  omega

theorem rowsOf_row_length (m n : Nat) (l : List K) (h : l.length = m * n) :
    ∀ r ∈ rowsOf m n l, r.length = n := by
  rw [rowsOf_eq_map]
  exact List.forall_mem_map.mpr fun i hi => rowAt_length n l i m h (List.mem_range.mp hi)

theorem rowsOf_flatten (n : Nat) (rows : List (List K)) (h : ∀ r ∈ rows, r.length = n) :
    rowsOf rows.length n rows.flatten = rows := by
  induction rows with
  | nil => rfl
  | cons r rs ih =>
    have hr : r.length = n := h r (by simp)
    simp only [List.length_cons, rowsOf, List.flatten_cons]
    rw [List.take_left' hr, List.drop_left' hr, ih (fun x hx => h x (by simp [hx]))]

theorem rowsOf_replicate (m n : Nat) (c : K) :
    rowsOf m n (List.replicate (m * n) c) = List.replicate m (List.replicate n c) := by
  induction m with
  | zero => rfl
  | succ m ih =>
    rw [Nat.succ_mul, rowsOf, List.take_replicate, List.drop_replicate, Nat.add_sub_cancel, ih,
      Nat.min_eq_left (Nat.le_add_left _ _)]
    rfl

theorem rowAt_getElem? (n : Nat) (l : List K) (i f : Nat) (hf : f < n) :
    (rowAt n l i)[f]? = l[i * n + f]? := by
  rw [rowAt, List.getElem?_take_of_lt hf, List.getElem?_drop]

end Rows

section Data
variable {K : Type} [Add K] [Mul K] [OfNat K 0]

@[simp] theorem integrateData_length (areas : List K) (m : Nat) (data : List K) :
    (integrateData areas m data).length = m := by
  rw [integrateData, List.length_map, rowsOf_length]

theorem integrateData_getElem? (areas : List K) (m : Nat) (data : List K) (i : Nat) (hi : i < m) :
    (integrateData areas m data)[i]? = some (dot areas (rowAt areas.length data i)) := by
  rw [integrateData, List.getElem?_map, rowsOf_getElem? _ _ _ _ hi]
  rfl

end Data

section DataSemiring
variable {K : Type} [CommSemiring K]

theorem integrateData_add (areas : List K) (m : Nat) (l1 l2 : List K)
    (hlen : l1.length = l2.length) :
    integrateData areas m (List.zipWith (· + ·) l1 l2)
      = List.zipWith (· + ·) (integrateData areas m l1) (integrateData areas m l2) := by
  simp only [integrateData, rowsOf_eq_map, List.map_map, List.zipWith_map, List.zipWith_self]
  refine List.map_congr_left fun i _ => ?_
  simp only [Function.comp, rowAt, List.take_zipWith, List.drop_zipWith]
  exact dot_add areas _ _ (by simp only [List.length_take, List.length_drop, hlen])

theorem integrateData_smul (areas : List K) (m : Nat) (c : K) (l : List K) :
    integrateData areas m (l.map (c * ·)) = (integrateData areas m l).map (c * ·) := by
  simp only [integrateData, rowsOf_map, List.map_map]
  exact List.map_congr_left fun r _ => dot_smul c areas r

end DataSemiring

theorem prodL_append (s t : List Nat) : prodL (s ++ t) = prodL s * prodL t := by
  induction s with
  | nil => simp [prodL]
  | cons x s ih => simp [prodL, ih, Nat.mul_assoc]

theorem mul_add_lt_mul {i m n f : Nat} (hi : i < m) (hf : f < n) : i * n + f < m * n :=
  calc i * n + f < (i + 1) * n := by rw [Nat.succ_mul]; omega
    _ ≤ m * n := Nat.mul_le_mul_right _ hi

theorem ravel_lt (s idx : List Nat) (h : InShape s idx) : ravel s idx < prodL s := by
  induction s generalizing idx with
  | nil => cases idx <;> simp [ravel, prodL]
  | cons x s ih =>
    cases idx with
    | nil => cases h
    | cons i is =>
      exact mul_add_lt_mul h.1 (ih is h.2)

theorem ravel_snoc (lead idx : List Nat) (n f : Nat) (h : InShape lead idx) :
    ravel (lead ++ [n]) (idx ++ [f]) = ravel lead idx * n + f := by
  induction lead generalizing idx with
  | nil =>
    cases idx with
    | nil => simp [ravel, prodL]
    | cons _ _ => cases h
  | cons x s ih =>
    cases idx with
    | nil => cases h
    | cons i is =>
      obtain ⟨_, hr⟩ := h
      simp only [List.cons_append, ravel, prodL_append, prodL, Nat.mul_one]
      rw [ih is hr, Nat.add_mul, Nat.mul_assoc, Nat.add_assoc]

theorem dropLast_getLast {α} (l : List α) (x : α) (h : l.getLast? = some x) :
    l = l.dropLast ++ [x] := by
  obtain ⟨ys, rfl⟩ := List.getLast?_eq_some_iff.mp h
  rw [List.dropLast_concat]

theorem FaceCentred.shape_eq {K : Type} {g : Grid} {a : Arr K} (h : FaceCentred g a) :
    a.shape = a.shape.dropLast ++ [g.nFace] :=
  dropLast_getLast _ _ h.2.1

/-- a face-centred array of shape `lead ++ [n_face]` holds `prodL lead` rows of `n_face` values -/
theorem FaceCentred.data_length {K : Type} {g : Grid} {a : Arr K} (h : FaceCentred g a) :
    a.data.length = prodL a.shape.dropLast * g.nFace := by
  rw [h.2.2.2.1]
  conv_lhs => rw [h.shape_eq]
  rw [prodL_append, prodL, prodL, Nat.mul_one]

section Reindex
variable {K : Type}

/-- `l[p]` (NumPy fancy indexing); positions outside `l` are dropped, `p ~ range l.length` in use -/
def reindex (p : List Nat) (l : List K) : List K := p.filterMap (l[·]?)

theorem reindex_range (l : List K) : reindex (List.range l.length) l = l := by
  induction l with
  | nil => rfl
  | cons x xs ih =>
    unfold reindex at ih ⊢
    rw [List.length_cons, List.range_succ_eq_map, List.filterMap_cons]
    simp only [List.getElem?_cons_zero, List.filterMap_map]
    congr 1

theorem reindex_perm {p : List Nat} {n : Nat} (hp : p.Perm (List.range n)) (l : List K)
    (hl : l.length = n) : (reindex p l).Perm l := by
  subst hl
  exact (hp.filterMap _).trans (.of_eq (reindex_range l))

theorem reindex_length {p : List Nat} {n : Nat} (hp : p.Perm (List.range n)) (l : List K)
    (hl : l.length = n) : (reindex p l).length = n := by
  rw [(reindex_perm hp l hl).length_eq, hl]

theorem reindex_map {L : Type} (f : K → L) (p : List Nat) (l : List K) :
    reindex p (l.map f) = (reindex p l).map f := by
  simp only [reindex, List.getElem?_map, List.map_filterMap]

theorem reindex_zip (p : List Nat) (a r : List K) (h : a.length = r.length) :
    (reindex p a).zip (reindex p r) = reindex p (a.zip r) := by
  -- both lists are projections of their zip, and re-indexing commutes with projections
  have e := List.zip_map' (f := Prod.fst) (g := Prod.snd) (l := reindex p (a.zip r))
  rw [← reindex_map, ← reindex_map, List.map_fst_zip h.le, List.map_snd_zip h.ge] at e
  exact e.trans (List.map_id _)

end Reindex

/-- **relabelling the faces by any permutation `p`, simultaneously in the areas and in the data
    row, does not change the weighted sum** -/
theorem dot_reindex {K : Type} [CommSemiring K] {p : List Nat} {n : Nat}
    (hp : p.Perm (List.range n)) (a r : List K) (ha : a.length = n) (hr : r.length = n) :
    dot (reindex p a) (reindex p r) = dot a r := by
  apply dot_perm
  rw [reindex_zip p a r (ha.trans hr.symm)]
  exact reindex_perm hp (a.zip r) (by rw [List.length_zip, ha, hr, Nat.min_self])

section Ext
open ExtVal

theorem ext_nan_add (x : ExtVal) : (ExtVal.nan + x : ExtVal) = ExtVal.nan := rfl
theorem ext_add_nan (x : ExtVal) : (x + ExtVal.nan : ExtVal) = ExtVal.nan := by cases x <;> rfl
theorem ext_mul_nan (x : ExtVal) : (x * ExtVal.nan : ExtVal) = ExtVal.nan := by cases x <;> rfl

/-- **a NaN term makes the weighted sum NaN**, wherever it stands and whatever the other values
    (finite, ±∞, NaN) and areas are -/
theorem dot_nan_propagates (areas : List Rat) (row : List ExtVal) (f : Nat)
    (hf : f < areas.length) (hrow : row[f]? = some ExtVal.nan) :
    dot (areas.map ExtVal.fin) row = ExtVal.nan := by
  induction areas generalizing row f with
  | nil => cases hf
  | cons a as ih =>
    cases row with
    | nil => cases hrow
    | cons d ds =>
      rw [List.map_cons, dot]
      cases f with
      | zero =>
        cases hrow
        rw [ext_mul_nan, ext_nan_add]
      | succ f => rw [ih ds f (Nat.lt_of_succ_lt_succ hf) hrow, ext_add_nan]

theorem infTimes_ne_fin (pos : Bool) (q w : Rat) : ExtVal.infTimes pos q ≠ ExtVal.fin w := by
  unfold ExtVal.infTimes
  split
  · nofun
  · split <;> nofun

theorem infTimes_ne_nan (pos : Bool) {q : Rat} (hq : q ≠ 0) : ExtVal.infTimes pos q ≠ ExtVal.nan := by
  unfold ExtVal.infTimes
  rw [if_neg hq]
  split <;> nofun

theorem fin_mul_ne_nan {a : Rat} (ha : a ≠ 0) {d : ExtVal} (hd : d ≠ ExtVal.nan) :
    (ExtVal.fin a * d : ExtVal) ≠ ExtVal.nan := by
  cases d with
  | nan => exact absurd rfl hd
  | pinf => exact infTimes_ne_nan true ha
  | ninf => exact infTimes_ne_nan false ha
  | fin q => nofun

theorem ext_add_fin_inv {x y : ExtVal} {v : Rat} (h : (x + y : ExtVal) = ExtVal.fin v) :
    ∃ a b, x = ExtVal.fin a ∧ y = ExtVal.fin b ∧ v = a + b := by
  cases x <;> cases y
  case fin.fin a b => exact ⟨a, b, rfl, rfl, by cases h; rfl⟩
  all_goals cases h

theorem ext_fin_mul_inv {a : Rat} {d : ExtVal} {w : Rat}
    (h : (ExtVal.fin a * d : ExtVal) = ExtVal.fin w) : ∃ q, d = ExtVal.fin q ∧ w = a * q := by
  cases d with
  | nan => cases h
  | pinf => exact absurd h (infTimes_ne_fin true a w)
  | ninf => exact absurd h (infTimes_ne_fin false a w)
  | fin q => exact ⟨q, rfl, (ExtVal.fin.inj h).symm⟩

/-- a finite extended sum is the rational sum of the (then necessarily finite) entries -/
theorem dot_ext_fin_inv (areas : List Rat) (row : List ExtVal) (v : Rat)
    (h : dot (areas.map ExtVal.fin) row = ExtVal.fin v) :
    dot areas ((row.take areas.length).filterMap ExtVal.toRat?) = v := by
  induction areas generalizing row v with
  | nil =>
    rw [List.map_nil, dot_nil_left] at h
    cases h; rfl
  | cons a as ih =>
    cases row with
    | nil => cases h; rfl
    | cons d ds =>
      obtain ⟨w, v', hw, hv', rfl⟩ := ext_add_fin_inv h
      obtain ⟨q, rfl, rfl⟩ := ext_fin_mul_inv hw
      simp only [List.length_cons, List.take_succ_cons, List.filterMap_cons, ExtVal.toRat?, dot_cons,
        ih ds v' hv']

end Ext

end UxVerif.Integrate
