/-
  Rounding-error analysis of the weighted sum of C06, for ANY order of summation.

  `SumTree` is an arbitrary bracketing of the products area·value (left-to-right loop, pairwise
  summation, SIMD lanes that are combined at the end, BLAS blocks … are all such trees, over any
  permutation of the terms).  `Rounded u t x` is the standard model of floating-point arithmetic
  with unit round-off `u`: every product and every addition of the tree is delivered with a
  relative error of at most `u` (a fused multiply-add is the case "product error 0").

  Main results (over every linearly ordered commutative ring: ℚ, ℝ, …):
  * `rounded_err_of_height_lt` the same with any exponent above the depth (the induction)
  * `rounded_err`      |x − exact| ≤ ((1+u)^(height+1) − 1)·Σ|terms|
  * `rounded_err_size` |x − exact| ≤ ((1+u)^n − 1)·Σ|terms|,  n = number of terms
  * `pow_sub_one_le`   (1+u)^n − 1 ≤ 2·n·u   when n·u ≤ 1
  * `rounded_err_linear` |x − exact| ≤ 2·n·u·Σ|terms|
-/
import Mathlib.Algebra.Order.Ring.Abs
import Mathlib.Tactic.Ring
import Mathlib.Tactic.LinearCombination
import UxVerif.Lemmas.Integrate

namespace UxVerif.Integrate

/-- a summation order: any binary tree whose leaves are (area, value) pairs -/
inductive SumTree (K : Type) where
  | leaf (a v : K)
  | add (l r : SumTree K)

namespace SumTree
variable {K : Type}

/-- the terms in tree order -/
def leaves : SumTree K → List (K × K)
  | leaf a v => [(a, v)]
  | add l r => l.leaves ++ r.leaves

def height : SumTree K → Nat
  | leaf _ _ => 0
  | add l r => max l.height r.height + 1

/-- the left-to-right loop `((a₀v₀ + a₁v₁) + a₂v₂) + …` over a non-empty list of pairs -/
def chain (p : K × K) : List (K × K) → SumTree K
  | [] => leaf p.1 p.2
  | q :: qs => chain' (leaf p.1 p.2) (q :: qs)
where
  chain' (acc : SumTree K) : List (K × K) → SumTree K
    | [] => acc
    | q :: qs => chain' (add acc (leaf q.1 q.2)) qs

variable [CommRing K] [LinearOrder K] [IsStrictOrderedRing K]

/-- the exact value Σ a·v -/
def exact : SumTree K → K
  | leaf a v => a * v
  | add l r => l.exact + r.exact

/-- Σ |a·v| -/
def absSum : SumTree K → K
  | leaf a v => |a * v|
  | add l r => l.absSum + r.absSum

end SumTree

open SumTree

theorem height_lt_leaves {K : Type} (t : SumTree K) : t.height + 1 ≤ t.leaves.length := by
  induction t with
  | leaf a v => exact Nat.le_refl 1
  | add l r ihl ihr => simp only [height, leaves, List.length_append]; omega

theorem chain'_leaves {K : Type} (acc : SumTree K) (qs : List (K × K)) :
    (chain.chain' acc qs).leaves = acc.leaves ++ qs := by
  induction qs generalizing acc with
  | nil => simp [chain.chain']
  | cons q qs ih => simp [chain.chain', ih, leaves]

theorem chain_leaves {K : Type} (p : K × K) (qs : List (K × K)) :
    (chain p qs).leaves = p :: qs := by
  cases qs with
  | nil => simp [chain, leaves]
  | cons q qs => simp [chain, chain'_leaves, leaves]

theorem exact_eq_sum {K : Type} [CommRing K] (t : SumTree K) :
    t.exact = sumL (t.leaves.map (fun p => p.1 * p.2)) := by
  induction t with
  | leaf a v => exact (add_zero _).symm
  | add l r ihl ihr => simp only [exact, leaves, List.map_append, sumL_append, ihl, ihr]

theorem absSum_eq_sum {K : Type} [CommRing K] [LinearOrder K] (t : SumTree K) :
    t.absSum = sumL (t.leaves.map (fun p => |p.1 * p.2|)) := by
  induction t with
  | leaf a v => exact (add_zero _).symm
  | add l r ihl ihr => simp only [absSum, leaves, List.map_append, sumL_append, ihl, ihr]

section Ordered
variable {K : Type} [CommRing K] [LinearOrder K] [IsStrictOrderedRing K]

/-- **standard model of floating-point arithmetic** with unit round-off `u`: `x` is a possible
    computed value of the bracketing `t` -/
inductive Rounded (u : K) : SumTree K → K → Prop
  | leaf (a v δ : K) : |δ| ≤ u → Rounded u (.leaf a v) (a * v * (1 + δ))
  | add {l r : SumTree K} {xl xr : K} (δ : K) : Rounded u l xl → Rounded u r xr → |δ| ≤ u →
      Rounded u (.add l r) ((xl + xr) * (1 + δ))

theorem abs_exact_le (t : SumTree K) : |t.exact| ≤ t.absSum := by
  induction t with
  | leaf a v => exact le_refl _
  | add l r ihl ihr => exact (abs_add_le _ _).trans (add_le_add ihl ihr)

theorem absSum_nonneg (t : SumTree K) : 0 ≤ t.absSum :=
  (abs_nonneg _).trans (abs_exact_le t)

/-- non-vacuity for every bracketing: the exact value is one of the possible computed values -/
theorem rounded_exact {u : K} (hu : 0 ≤ u) (t : SumTree K) : Rounded u t t.exact := by
  have h0 : |(0 : K)| ≤ u := by rwa [abs_zero]
  induction t with
  | leaf a v =>
    have h := Rounded.leaf a v 0 h0
    rwa [add_zero, mul_one] at h
  | add l r ihl ihr =>
    have h := Rounded.add 0 ihl ihr h0
    rwa [add_zero, mul_one] at h

/-- one more rounding of a value `x` that approximates `e`: a relative error `(1+u)^k − 1`
    (measured against a bound `S` of `|e|`) becomes `(1+u)^(k+1) − 1` -/
theorem abs_round_sub_le {u δ x e S : K} (hu : 0 ≤ u) (hδ : |δ| ≤ u) (k : Nat) (he : |e| ≤ S)
    (hx : |x - e| ≤ ((1 + u) ^ k - 1) * S) :
    |x * (1 + δ) - e| ≤ ((1 + u) ^ (k + 1) - 1) * S := by
  have hx' : |x| ≤ (1 + u) ^ k * S :=
    (sub_le_iff_le_add.mp (abs_sub_abs_le_abs_sub x e)).trans
      ((add_le_add hx he).trans_eq (by ring))
  calc |x * (1 + δ) - e| = |x - e + δ * x| := by congr 1; ring
    _ ≤ |x - e| + |δ| * |x| := (abs_add_le _ _).trans_eq (by rw [abs_mul])
    _ ≤ ((1 + u) ^ k - 1) * S + u * ((1 + u) ^ k * S) :=
        add_le_add hx (mul_le_mul hδ hx' (abs_nonneg _) hu)
    _ = ((1 + u) ^ (k + 1) - 1) * S := by ring

/-- each level of the tree is one more rounding -/
theorem rounded_err_of_height_lt {u : K} (hu : 0 ≤ u) {t : SumTree K} {x : K}
    (h : Rounded u t x) : ∀ k, t.height < k → |x - t.exact| ≤ ((1 + u) ^ k - 1) * t.absSum := by
  induction h with
  | leaf a v δ hδ =>
    rintro (_ | k) hk
    · cases hk
    apply abs_round_sub_le hu hδ k (le_refl |a * v|)
    rw [sub_self, abs_zero]
    exact mul_nonneg (sub_nonneg.mpr (one_le_pow₀ (le_add_of_nonneg_right hu))) (abs_nonneg _)
  | @add l r xl xr δ _ _ hδ ihl ihr =>
    rintro (_ | k) hk
    · cases hk
    have hk' : max l.height r.height < k := Nat.lt_of_succ_lt_succ hk
    apply abs_round_sub_le hu hδ k
      ((abs_add_le _ _).trans (add_le_add (abs_exact_le l) (abs_exact_le r)))
    show |xl + xr - (l.exact + r.exact)| ≤ ((1 + u) ^ k - 1) * (l.absSum + r.absSum)
    rw [add_sub_add_comm, mul_add]
    exact (abs_add_le _ _).trans (add_le_add (ihl k (lt_of_le_of_lt (Nat.le_max_left _ _) hk'))
      (ihr k (lt_of_le_of_lt (Nat.le_max_right _ _) hk')))

/-- **error of any summation order, by the depth of the bracketing** -/
theorem rounded_err {u : K} (hu : 0 ≤ u) {t : SumTree K} {x : K} (h : Rounded u t x) :
    |x - t.exact| ≤ ((1 + u) ^ (t.height + 1) - 1) * t.absSum :=
  rounded_err_of_height_lt hu h _ (Nat.lt_succ_self _)

theorem rounded_err_size {u : K} (hu : 0 ≤ u) {t : SumTree K} {x : K} (h : Rounded u t x) :
    |x - t.exact| ≤ ((1 + u) ^ t.leaves.length - 1) * t.absSum :=
  rounded_err_of_height_lt hu h _ (height_lt_leaves t)

theorem pow_le_quadratic {u : K} (hu : 0 ≤ u) (n : Nat) (hn : (n : K) * u ≤ 1) :
    (1 + u) ^ n ≤ 1 + n * u + (n * u) ^ 2 := by
  induction n with
  | zero => simp
  | succ n ih =>
    rw [Nat.cast_succ] at hn ⊢
    have hn' : (n : K) * u ≤ 1 :=
      (mul_le_mul_of_nonneg_right (le_add_of_nonneg_right zero_le_one) hu).trans hn
    -- the step loses `u² + n·u²·(1 − n·u)`, which is where `n·u ≤ 1` is used
    have slack : 0 ≤ n * u ^ 2 * (1 - n * u) :=
      mul_nonneg (mul_nonneg (Nat.cast_nonneg n) (sq_nonneg u)) (sub_nonneg.mpr hn')
    have step := mul_le_mul_of_nonneg_right (ih hn') (add_nonneg zero_le_one hu)
    rw [pow_succ]
    linear_combination step + slack + sq_nonneg u

theorem pow_sub_one_le {u : K} (hu : 0 ≤ u) (n : Nat) (hn : (n : K) * u ≤ 1) :
    (1 + u) ^ n - 1 ≤ 2 * n * u := by
  have h : ((n : K) * u) ^ 2 ≤ n * u := by
    rw [sq]
    exact mul_le_of_le_one_left (mul_nonneg (Nat.cast_nonneg n) hu) hn
  linear_combination pow_le_quadratic hu n hn + h

theorem rounded_err_linear {u : K} (hu : 0 ≤ u) {t : SumTree K} {x : K} (h : Rounded u t x)
    (hn : (t.leaves.length : K) * u ≤ 1) :
    |x - t.exact| ≤ 2 * t.leaves.length * u * t.absSum :=
  (rounded_err_size hu h).trans
    (mul_le_mul_of_nonneg_right (pow_sub_one_le hu _ hn) (absSum_nonneg t))

end Ordered

end UxVerif.Integrate
