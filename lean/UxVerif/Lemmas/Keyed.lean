/-
  The one fact about table-updating loops: after `for (k,v) in events: T[k] = upd(T[k], v)` cell
  `k` holds the fold of `upd` over exactly the values fed to `k`, in order (`keyedFold_get`); the
  equations of `feed`; tables whose cells start equal or empty.  Core Lean only.
-/
import UxVerif.Model.Incidence

namespace UxVerif.Incidence
variable {C V : Type}

theorem keyedFold_cons (upd : C → V → C) (init : List C) (kv : Nat × V) (ev : List (Nat × V)) :
    keyedFold upd init (kv :: ev)
      = keyedFold upd (init.modify kv.1 (fun c => upd c kv.2)) ev := rfl

theorem feed_cons (kv : Nat × V) (ev : List (Nat × V)) (k : Nat) :
    feed (kv :: ev) k = if kv.1 = k then kv.2 :: feed ev k else feed ev k := by
  unfold feed
  by_cases h : kv.1 = k <;> simp [h]

theorem length_feed (ev : List (Nat × V)) (k : Nat) :
    (feed ev k).length = ev.countP (fun kv => kv.1 == k) := by
  rw [feed, List.length_map, List.countP_eq_length_filter]

theorem feed_append (a b : List (Nat × V)) (k : Nat) : feed (a ++ b) k = feed a k ++ feed b k := by
  simp [feed]

theorem feed_flatMap {A : Type} (l : List A) (g : A → List (Nat × V)) (k : Nat) :
    feed (l.flatMap g) k = l.flatMap (fun a => feed (g a) k) := by
  induction l with
  | nil => rfl
  | cons a l ih => rw [List.flatMap_cons, feed_append, ih, List.flatMap_cons]

theorem feed_row (r : List Int) (c : V) (e : Nat) :
    feed (r.map (fun y => (y.toNat, c))) e
      = List.replicate (r.countP (fun y => y.toNat == e)) c := by
  induction r with
  | nil => rfl
  | cons y r ih =>
    rw [List.map_cons, feed_cons, List.countP_cons, ih]
    by_cases h : y.toNat = e <;> simp [h, List.replicate_succ]

theorem keyedFold_length (upd : C → V → C) (init : List C) (ev : List (Nat × V)) :
    (keyedFold upd init ev).length = init.length := by
  induction ev generalizing init with
  | nil => rfl
  | cons kv ev ih => rw [keyedFold_cons, ih]; simp

theorem keyedFold_get (upd : C → V → C) (init : List C) (ev : List (Nat × V)) (k : Nat) :
    (keyedFold upd init ev)[k]? = init[k]?.map (fun c => (feed ev k).foldl upd c) := by
  induction ev generalizing init with
  | nil => simp [keyedFold, feed]
  | cons kv ev ih =>
    rw [keyedFold_cons, ih, List.getElem?_modify, feed_cons]
    by_cases hk : kv.1 = k <;> cases init[k]? <;> simp [hk]

theorem keyedFold_replicate_length (upd : C → V → C) (n : Nat) (c : C) (ev : List (Nat × V)) :
    (keyedFold upd (List.replicate n c) ev).length = n := by
  rw [keyedFold_length, List.length_replicate]

theorem keyedFold_replicate_get (upd : C → V → C) (n : Nat) (c : C) (ev : List (Nat × V)) (k : Nat)
    (hk : k < n) :
    (keyedFold upd (List.replicate n c) ev)[k]? = some ((feed ev k).foldl upd c) := by
  rw [keyedFold_get, List.getElem?_replicate, if_pos hk, Option.map_some]

theorem appendFold_get (n : Nat) (ev : List (Nat × V)) (k : Nat) (hk : k < n) :
    (keyedFold (fun c v => c ++ [v]) (List.replicate n []) ev)[k]? = some (feed ev k) := by
  have snoc : ∀ (l c : List V), l.foldl (fun c v => c ++ [v]) c = c ++ l := by
    intro l
    induction l with
    | nil => simp
    | cons a l ih => simp [ih]
  rw [keyedFold_replicate_get _ _ _ _ _ hk, snoc, List.nil_append]

theorem appendFold_length (n : Nat) (ev : List (Nat × V)) :
    (keyedFold (fun c v => c ++ [v]) (List.replicate n []) ev).length = n :=
  keyedFold_replicate_length _ _ _ _

theorem mem_appendFold {n : Nat} {ev : List (Nat × V)} {l : List V}
    (hl : l ∈ keyedFold (fun c v => c ++ [v]) (List.replicate n []) ev) :
    ∃ k, k < n ∧ l = feed ev k := by
  obtain ⟨k, hk, rfl⟩ := List.getElem_of_mem hl
  have hk' : k < n := appendFold_length n ev ▸ hk
  exact ⟨k, hk', Option.some.inj ((List.getElem?_eq_getElem hk).symm.trans (appendFold_get n ev k hk'))⟩

theorem mem_map_appendFold {W : Type} {g : List V → W} {n : Nat} {ev : List (Nat × V)} {r : W}
    (hr : r ∈ (keyedFold (fun c v => c ++ [v]) (List.replicate n []) ev).map g) :
    ∃ k, k < n ∧ r = g (feed ev k) := by
  obtain ⟨l, hl, rfl⟩ := List.mem_map.mp hr
  obtain ⟨k, hk, rfl⟩ := mem_appendFold hl
  exact ⟨k, hk, rfl⟩

theorem rowAt_map_appendFold (g : List Int → List Int) (n : Nat) (ev : List (Nat × Int)) {k : Nat}
    (hk : k < n) :
    rowAt ((keyedFold (fun c v => c ++ [v]) (List.replicate n []) ev).map g) k = g (feed ev k) := by
  rw [rowAt, List.getD_eq_getElem?_getD, List.getElem?_map, appendFold_get n ev k hk]; rfl

theorem mem_feed (ev : List (Nat × V)) (k : Nat) (v : V) : v ∈ feed ev k ↔ (k, v) ∈ ev := by
  unfold feed
  simp only [List.mem_map, List.mem_filter, beq_iff_eq]
  constructor
  · rintro ⟨⟨k', v'⟩, ⟨h1, h2⟩, h3⟩
    simp only at h2 h3; subst h2; subst h3; exact h1
  · intro h; exact ⟨(k, v), ⟨h, rfl⟩, rfl⟩

theorem count_feed (ev : List (Nat × Int)) (k : Nat) (x : Int) :
    (feed ev k).count x = ev.count (k, x) := by
  induction ev with
  | nil => rfl
  | cons kv ev ih =>
    rw [feed_cons, List.count_cons]
    by_cases h : kv.1 = k
    · rw [if_pos h, List.count_cons, ih]
      by_cases h2 : kv.2 = x
      · have : kv = (k, x) := Prod.ext h h2
        simp [this]
      · have : ¬ kv = (k, x) := fun hh => h2 (by rw [hh])
        simp [this, h2]
    · rw [if_neg h, ih]
      have : ¬ kv = (k, x) := fun hh => h (by rw [hh])
      simp [this]

end UxVerif.Incidence
