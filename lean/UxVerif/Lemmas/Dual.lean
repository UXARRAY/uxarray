/-
  C18, core Lean only: the selection loop of `_order_nodes` (`pick`, `steps`: selection by
  increasing key is sorting), rows padded at the end, and the row bookkeeping of `construct_faces`
  (the `correction` counter is the schedule 0, 1, 2, …; writes of different nodes commute).
-/
import UxVerif.Model.Dual

namespace UxVerif.Dual
open UxVerif UxVerif.Incidence

/-! ## the selection loop of `_order_nodes` -/

/-- the laws of a strict total order given as a `Bool` relation (what `<` on the angle keys is
    assumed to be; IEEE `<` satisfies them on non-NaN values) -/
structure StrictOrder {K : Type} (lt : K → K → Bool) : Prop where
  irrefl : ∀ a, lt a a = false
  trans : ∀ a b c, lt a b = true → lt b c = true → lt a c = true
  total : ∀ a b, lt a b = true ∨ a = b ∨ lt b a = true

section order
variable {K : Type} {lt : K → K → Bool}

theorem StrictOrder.asymm (h : StrictOrder lt) {a b : K} (hab : lt a b = true) : lt b a = false := by
  cases hba : lt b a with
  | false => rfl
  | true =>
    have := h.trans a b a hab hba
    rw [h.irrefl] at this
    cases this

/-- `¬ b < a` and `¬ c < b` give `¬ c < a` -/
theorem StrictOrder.le_trans (h : StrictOrder lt) {a b c : K}
    (hab : lt b a = false) (hbc : lt c b = false) : lt c a = false := by
  cases hca : lt c a with
  | false => rfl
  | true =>
    rcases h.total a b with h1 | h1 | h1
    · have := h.trans c a b hca h1
      rw [hbc] at this; cases this
    · subst h1; rw [hbc] at hca; cases hca
    · rw [hab] at h1; cases h1

/-- recursive form of the inner loop -/
def pickFrom (lt : K → K → Bool) (cur : K) (best : Option (K × Int)) (B : K) :
    List (K × Int) → Option (K × Int)
  | [] => best
  | it :: rest =>
    if lt cur it.1 && lt it.1 B then pickFrom lt cur (some it) it.1 rest
    else pickFrom lt cur best B rest

theorem foldl_pickStep (cur : K) (items : List (K × Int)) (best : Option (K × Int)) (B : K) :
    (items.foldl (pickStep lt cur) (best, B)).1 = pickFrom lt cur best B items := by
  induction items generalizing best B with
  | nil => rfl
  | cons it rest ih =>
    simp only [List.foldl_cons, pickFrom, pickStep]
    split
    · exact ih _ _
    · exact ih _ _

theorem pickFrom_mem (cur : K) {it : K × Int} : ∀ (items : List (K × Int)) (best : Option (K × Int))
    (B : K), pickFrom lt cur best B items = some it → best = some it ∨ it ∈ items
  | [], _, _, h => Or.inl h
  | a :: l, best, B, h => by
    unfold pickFrom at h
    split at h
    · rcases pickFrom_mem cur l _ _ h with h1 | h1
      · exact Or.inr (Option.some.inj h1 ▸ List.mem_cons_self)
      · exact Or.inr (List.mem_cons_of_mem _ h1)
    · exact (pickFrom_mem cur l _ _ h).imp_right (List.mem_cons_of_mem _)

theorem pick_eq_pickFrom (cur twoPi : K) (items : List (K × Int)) :
    pick lt cur twoPi items = pickFrom lt cur none twoPi items := foldl_pickStep cur items none twoPi

theorem pickFrom_eq_best (cur : K) (best : Option (K × Int)) (B : K) (items : List (K × Int))
    (hno : ∀ x ∈ items, ¬ (lt cur x.1 = true ∧ lt x.1 B = true)) :
    pickFrom lt cur best B items = best := by
  induction items with
  | nil => rfl
  | cons a l ih =>
    unfold pickFrom
    rw [if_neg fun h => hno a List.mem_cons_self (Bool.and_eq_true_iff.mp h)]
    exact ih fun x hx => hno x (List.mem_cons_of_mem _ hx)

/-- `hmin` says that `m` is the unique least item above `cur`: no item above `cur` has a smaller
    key, and none but `m` has the key of `m` -/
theorem pickFrom_eq_some (h : StrictOrder lt) (cur : K) (m : K × Int) (h1 : lt cur m.1 = true) :
    ∀ (items : List (K × Int)) (best : Option (K × Int)) (B : K), m ∈ items → lt m.1 B = true →
      (∀ x ∈ items, lt cur x.1 = true → lt x.1 m.1 = false ∧ (x.1 = m.1 → x = m)) →
      pickFrom lt cur best B items = some m
  | [], _, _, hm, _, _ => nomatch hm
  | it :: rest, best, B, hm, h2, hmin => by
    unfold pickFrom
    have hrest : ∀ x ∈ rest, lt cur x.1 = true → lt x.1 m.1 = false ∧ (x.1 = m.1 → x = m) :=
      fun x hx => hmin x (List.mem_cons_of_mem _ hx)
    by_cases hc : (lt cur it.1 && lt it.1 B) = true
    · rw [if_pos hc]
      obtain ⟨hle, heq⟩ := hmin it List.mem_cons_self (Bool.and_eq_true_iff.mp hc).1
      rcases h.total it.1 m.1 with h3 | h3 | h3
      · rw [hle] at h3; cases h3
      · -- `it` is `m`: nothing after it lies below it
        rw [heq h3]
        exact pickFrom_eq_best cur _ _ rest fun x hx hw =>
          absurd hw.2 (by rw [(hrest x hx hw.1).1]; exact Bool.false_ne_true)
      · -- `m` comes later and lies below `it`
        have hm' : m ∈ rest := (List.mem_cons.mp hm).resolve_left fun e => by
          rw [e, h.irrefl] at h3; cases h3
        exact pickFrom_eq_some h cur m h1 rest _ _ hm' h3 hrest
    · rw [if_neg hc]
      have hm' : m ∈ rest := (List.mem_cons.mp hm).resolve_left fun e =>
        hc (Bool.and_eq_true_iff.mpr ⟨e ▸ h1, e ▸ h2⟩)
      exact pickFrom_eq_some h cur m h1 rest _ _ hm' h2 hrest

/-- the inner loop returns THE smallest item above `cur` when it is unique -/
theorem pick_eq_some (h : StrictOrder lt) (cur twoPi : K) (items : List (K × Int)) (m : K × Int)
    (hm : m ∈ items) (h1 : lt cur m.1 = true) (h2 : lt m.1 twoPi = true)
    (hmin : ∀ x ∈ items, lt cur x.1 = true → lt x.1 m.1 = false ∧ (x.1 = m.1 → x = m)) :
    pick lt cur twoPi items = some m := by
  rw [pick_eq_pickFrom]
  exact pickFrom_eq_some h cur m h1 items none twoPi hm h2 hmin

/-- the inner loop finds nothing when no key lies strictly between `cur` and `2π` -/
theorem pick_eq_none (h : StrictOrder lt) (cur twoPi : K) (items : List (K × Int))
    (hno : ∀ x ∈ items, ¬ (lt cur x.1 = true ∧ lt x.1 twoPi = true)) :
    pick lt cur twoPi items = none := by
  rw [pick_eq_pickFrom]
  exact pickFrom_eq_best cur none twoPi items hno

/-- **selection = sorting.**  Started at `cur`, the outer loop emits the items above `cur` in
    increasing key order: `suf` is any strictly increasing list of exactly those items. -/
theorem steps_eq_of_sorted (h : StrictOrder lt) (twoPi : K) (items : List (K × Int))
    (hub : ∀ x ∈ items, lt x.1 twoPi = true) :
    ∀ (suf : List (K × Int)) (cur : K), suf.Pairwise (fun a b => lt a.1 b.1 = true) →
      (∀ x, x ∈ suf ↔ x ∈ items ∧ lt cur x.1 = true) →
      steps lt twoPi items suf.length cur = suf.map (·.2) := by
  intro suf
  induction suf with
  | nil => intro cur _ _; rfl
  | cons m suf ih =>
    intro cur hsorted hmem
    obtain ⟨hms, hsuf⟩ := List.pairwise_cons.mp hsorted
    obtain ⟨hmi, hcm⟩ := (hmem m).mp List.mem_cons_self
    have hpick : pick lt cur twoPi items = some m := by
      refine pick_eq_some h cur twoPi items m hmi hcm (hub m hmi) fun x hx hcx => ?_
      rcases List.mem_cons.mp ((hmem x).mpr ⟨hx, hcx⟩) with rfl | hx'
      · exact ⟨h.irrefl _, fun _ => rfl⟩
      · have hlt := hms x hx'
        exact ⟨h.asymm hlt, fun he => by rw [he, h.irrefl] at hlt; cases hlt⟩
    simp only [List.length_cons, steps, hpick, List.map_cons]
    congr 1
    refine ih m.1 hsuf fun x => ⟨fun hx => ⟨((hmem x).mp (List.mem_cons_of_mem _ hx)).1, hms x hx⟩,
      fun ⟨hx, hmx⟩ => ?_⟩
    -- an item above `m` is above `cur`, hence in `m :: suf`, and it is not `m`
    rcases List.mem_cons.mp ((hmem x).mpr ⟨hx, h.trans _ _ _ hcm hmx⟩) with rfl | hx'
    · rw [h.irrefl] at hmx; cases hmx
    · exact hx'

/-- once nothing is found, every later position stays `FILL` -/
theorem steps_none (twoPi : K) (items : List (K × Int)) (cur : K)
    (hn : pick lt cur twoPi items = none) :
    ∀ f, steps lt twoPi items f cur = List.replicate f FILL := by
  intro f
  induction f with
  | zero => rfl
  | succ f ih => simp only [steps, hn, ih, List.replicate_succ]

theorem steps_mem (twoPi : K) (items : List (K × Int)) :
    ∀ f cur, ∀ x ∈ steps lt twoPi items f cur, x = FILL ∨ x ∈ items.map (·.2) := by
  intro f
  induction f with
  | zero => intro cur x hx; cases hx
  | succ f ih =>
    intro cur x hx
    unfold steps at hx
    split at hx
    · rcases List.mem_cons.mp hx with rfl | hx
      · exact Or.inl rfl
      · exact ih _ x hx
    · rename_i it hp
      rcases List.mem_cons.mp hx with rfl | hx
      · rw [pick_eq_pickFrom] at hp
        exact Or.inr (List.mem_map.mpr
          ⟨it, (pickFrom_mem cur items none twoPi hp).resolve_left nofun, rfl⟩)
      · exact ih _ x hx

/-- sorting the items by key (only used to STATE what the loop computes) -/
def sortByKey (lt : K → K → Bool) (items : List (K × Int)) : List (K × Int) :=
  items.mergeSort (fun a b => !lt b.1 a.1)

theorem sortByKey_perm (items : List (K × Int)) : (sortByKey lt items).Perm items :=
  List.mergeSort_perm _ _

theorem sortByKey_sorted (h : StrictOrder lt) (items : List (K × Int))
    (hkeys : items.Pairwise (fun a b => a.1 ≠ b.1)) :
    (sortByKey lt items).Pairwise (fun a b => lt a.1 b.1 = true) := by
  have hle : (sortByKey lt items).Pairwise (fun a b => (!lt b.1 a.1) = true) := by
    unfold sortByKey
    apply List.pairwise_mergeSort
    · intro a b c hab hbc
      simp only [Bool.not_eq_true'] at hab hbc ⊢
      exact h.le_trans hab hbc
    · intro a b
      cases hba : lt b.1 a.1 with
      | false => simp
      | true => simp [h.asymm hba]
  have hne : (sortByKey lt items).Pairwise (fun a b => a.1 ≠ b.1) :=
    ((sortByKey_perm items).pairwise_iff (fun hxy => Ne.symm hxy)).mpr hkeys
  refine (hle.and hne).imp ?_
  intro a b ⟨h1, h2⟩
  simp only [Bool.not_eq_true'] at h1
  rcases h.total a.1 b.1 with h3 | h3 | h3
  · exact h3
  · exact absurd h3 h2
  · rw [h1] at h3; cases h3

end order

/-! ## rows padded at the end -/

theorem zip_map_self {α β : Type} (l : List α) (F : α → β) :
    List.zip l (l.map F) = l.map (fun a => (a, F a)) := by
  induction l with
  | nil => rfl
  | cons a l ih => rw [List.map_cons, List.zip_cons_cons, ih, List.map_cons]

theorem dropWhile_all {α} (p : α → Bool) (l : List α) (h : ∀ x ∈ l, p x = true) :
    l.dropWhile p = [] := by
  induction l with
  | nil => rfl
  | cons a l ih =>
    rw [List.dropWhile_cons, if_pos (h a List.mem_cons_self)]
    exact ih (fun x hx => h x (List.mem_cons_of_mem _ hx))

theorem real_eq_takeWhile_of_endPadded (r : List Int) (h : EndPadded r) :
    real r = r.takeWhile (fun x => x != FILL) := by
  conv => lhs; rw [real, ← List.takeWhile_append_dropWhile (p := fun x => x != FILL) (l := r)]
  rw [List.filter_append, List.filter_eq_self.mpr (List.all_eq_true.mp List.all_takeWhile),
    List.filter_eq_nil_iff.mpr (fun a ha => by simp [h a ha]), List.append_nil]

theorem take_valence_of_endPadded (r : List Int) (h : EndPadded r) :
    r.take (valence r) = real r := by
  rw [show valence r = (real r).length from rfl, real_eq_takeWhile_of_endPadded r h]
  conv => lhs; arg 2; rw [← List.takeWhile_append_dropWhile (p := fun x => x != FILL) (l := r)]
  exact List.take_left' rfl

theorem real_ne_fill (r : List Int) : ∀ x ∈ real r, x ≠ FILL := by
  intro x hx
  unfold real at hx
  have := (List.mem_filter.mp hx).2
  simpa using this

theorem endPadded_append_fill (l : List Int) (k : Nat) (hl : ∀ x ∈ l, x ≠ FILL) :
    EndPadded (l ++ List.replicate k FILL) := by
  intro x hx
  rw [List.dropWhile_append, dropWhile_all _ l (fun a ha => by simpa using hl a ha),
    List.dropWhile_replicate] at hx
  simp only [List.isEmpty_nil, bne_self_eq_false, if_true, Bool.false_eq_true, if_false] at hx
  exact (List.mem_replicate.mp hx).2

theorem real_append_fill (l : List Int) (k : Nat) (hl : ∀ x ∈ l, x ≠ FILL) :
    real (l ++ List.replicate k FILL) = l := by
  rw [real, List.filter_append, List.filter_eq_self.mpr (fun a ha => by simpa using hl a ha),
    List.filter_replicate_of_neg (by simp), List.append_nil]

theorem dualRow_of_real {K : Type} (lt : K → K → Bool) (zero twoPi : K)
    (keyOf : Nat → Int → Int → K) (W i : Nat) {r : List Int} {first : Int} {rest : List Int}
    (hreal : real r = first :: rest) :
    dualRow lt zero twoPi keyOf W i r
      = orderNodes lt zero twoPi W first (rest.map (fun f => (keyOf i first f, f))) := by
  have hne : ∀ x ∈ first :: rest, (x != FILL) = true := fun x hx => by
    simpa using real_ne_fill r x (hreal ▸ hx)
  have hitems : rest.map (fun f => (if f != FILL then keyOf i first f else zero, f))
      = rest.map (fun f => (keyOf i first f, f)) :=
    List.map_congr_left fun f hf => by rw [if_pos (hne f (List.mem_cons_of_mem _ hf))]
  unfold dualRow dualRowWith gatherRow
  simp only [if_true]
  rw [hreal]
  simp only [hne first List.mem_cons_self, if_true, hitems]

/-! ## the row bookkeeping of `construct_faces` -/

/-- the per-node step of the loop -/
def cfStep (rowOf : Nat → Nat → List Int → List Int) (NF : Table) (W : Nat)
    (st : Nat × Table) (i : Nat) : Nat × Table :=
  let r := rowAt NF i
  if valence r < 3 then (st.1 + 1, st.2) else (st.1, st.2.set (i - st.1) (rowOf W i r))

/-- the nodes below `m` that get a dual face.  The model's `keptNodes` is this list for all nodes,
    its `keptBefore NF m` is the length of this list. -/
def keptUpTo (NF : Table) (m : Nat) : List Nat :=
  (List.range m).filter (fun i => decide (3 ≤ valence (rowAt NF i)))

theorem keptNodes_eq (NF : Table) : keptNodes NF = keptUpTo NF NF.length := rfl

theorem keptBefore_eq (NF : Table) (m : Nat) : keptBefore NF m = (keptUpTo NF m).length := rfl

theorem keptUpTo_succ (NF : Table) (m : Nat) :
    keptUpTo NF (m + 1) = keptUpTo NF m ++ (if 3 ≤ valence (rowAt NF m) then [m] else []) := by
  unfold keptUpTo
  rw [List.range_succ, List.filter_append]
  congr 1
  by_cases h : 3 ≤ valence (rowAt NF m) <;> simp [h]

theorem keptBefore_succ (NF : Table) (m : Nat) :
    keptBefore NF (m + 1) = keptBefore NF m + (if 3 ≤ valence (rowAt NF m) then 1 else 0) := by
  rw [keptBefore_eq, keptBefore_eq, keptUpTo_succ, List.length_append]
  split <;> rfl

theorem keptBefore_le (NF : Table) (m : Nat) : keptBefore NF m ≤ m :=
  Nat.le_trans (List.length_filter_le _ _) (Nat.le_of_eq List.length_range)

theorem keptBefore_mono (NF : Table) {m n : Nat} (h : m ≤ n) : keptBefore NF m ≤ keptBefore NF n :=
  ((List.range_sublist.mpr h).filter _).length_le

/-- the sequential loop is the schedule `0, 1, 2, …`: after `m` nodes its counter `correction` is
    `m − keptBefore NF m`, so node `m` writes row `m − correction = keptBefore NF m` -/
theorem cf_fold (rowOf : Nat → Nat → List Int → List Int) (NF : Table) (W : Nat) (T : Table)
    (m : Nat) :
    (List.range m).foldl (cfStep rowOf NF W) (0, T)
      = (m - keptBefore NF m, (List.range m).foldl (schedStep rowOf NF W) T) := by
  induction m with
  | zero => rfl
  | succ m ih =>
    have hle := keptBefore_le NF m
    rw [List.range_succ, List.foldl_append, List.foldl_append, ih, keptBefore_succ]
    simp only [List.foldl_cons, List.foldl_nil, cfStep, schedStep]
    by_cases hv : valence (rowAt NF m) < 3
    · rw [if_pos hv, if_pos hv, if_neg (Nat.not_le.mpr hv), Nat.add_zero (keptBefore NF m),
        Nat.sub_add_comm hle]
    · rw [if_neg hv, if_neg hv, if_pos (Nat.not_lt.mp hv), Nat.sub_sub_self hle,
        Nat.add_sub_add_right]

theorem constructFaces_eq_sched (rowOf : Nat → Nat → List Int → List Int) (NF : Table) :
    constructFaces rowOf NF = constructFacesSched rowOf NF (List.range NF.length) := by
  show ((List.range NF.length).foldl (cfStep rowOf NF (NF.headD []).length) (0, _)).2 = _
  rw [cf_fold]
  rfl

/-- `n_edges > 2` of the pre-allocation counts the kept nodes (`2 < n` unfolds to `3 ≤ n`) -/
theorem countP_eq_keptBefore (NF : Table) :
    NF.countP (fun r => decide (2 < valence r)) = keptBefore NF NF.length := by
  have hNF : NF = (List.range NF.length).map (rowAt NF) := by
    apply List.ext_getElem
    · simp
    · intro i h1 h2
      simp [rowAt, List.getD, h1]
  conv => lhs; rw [hNF]
  rw [List.countP_map, List.countP_eq_length_filter]
  rfl

/-- running the nodes in increasing order fills the table from the top with the rows of the kept
    nodes: each write goes to the first row still untouched -/
theorem sched_range (rowOf : Nat → Nat → List Int → List Int) (NF : Table) (W : Nat)
    (fillRow : List Int) (n : Nat) : ∀ m, m ≤ n →
      (List.range m).foldl (schedStep rowOf NF W) (List.replicate (keptBefore NF n) fillRow)
        = (keptUpTo NF m).map (fun i => rowOf W i (rowAt NF i))
            ++ List.replicate (keptBefore NF n - keptBefore NF m) fillRow := by
  intro m
  induction m with
  | zero => intro _; rfl
  | succ m ih =>
    intro hm
    rw [List.range_succ, List.foldl_append, ih (Nat.le_of_succ_le hm), List.foldl_cons,
      List.foldl_nil, keptUpTo_succ, keptBefore_succ]
    unfold schedStep
    by_cases hv : valence (rowAt NF m) < 3
    · simp only [if_pos hv, if_neg (Nat.not_le.mpr hv), List.append_nil, Nat.add_zero]
    · have hmono := keptBefore_mono NF hm
      rw [keptBefore_succ, if_pos (Nat.not_lt.mp hv)] at hmono
      have hk : keptBefore NF n - keptBefore NF m
          = keptBefore NF n - (keptBefore NF m + 1) + 1 := by omega
      simp only [if_neg hv, if_pos (Nat.not_lt.mp hv)]
      rw [hk, List.replicate_succ, keptBefore_eq NF m,
        List.set_append_right _ _ (by rw [List.length_map]; exact Nat.le_refl _), List.length_map,
        Nat.sub_self, List.set_cons_zero, List.map_append, List.append_assoc]
      rfl

theorem keptBefore_lt_of_lt (NF : Table) {j i : Nat} (hji : j < i)
    (hj : 3 ≤ valence (rowAt NF j)) : keptBefore NF j < keptBefore NF i := by
  have h1 := keptBefore_mono NF (Nat.succ_le_of_lt hji)
  rw [keptBefore_succ, if_pos hj] at h1
  exact h1

theorem keptBefore_inj (NF : Table) {i j : Nat} (hi : 3 ≤ valence (rowAt NF i))
    (hj : 3 ≤ valence (rowAt NF j)) (h : keptBefore NF i = keptBefore NF j) : i = j := by
  rcases Nat.lt_trichotomy i j with hlt | heq | hlt
  · have := keptBefore_lt_of_lt NF hlt hi; omega
  · exact heq
  · have := keptBefore_lt_of_lt NF hlt hj; omega

/-- the writes of two nodes commute: distinct kept nodes write distinct rows (`keptBefore_inj`) -/
theorem schedStep_comm (rowOf : Nat → Nat → List Int → List Int) (NF : Table) (W : Nat)
    (T : Table) (i j : Nat) :
    schedStep rowOf NF W (schedStep rowOf NF W T i) j
      = schedStep rowOf NF W (schedStep rowOf NF W T j) i := by
  unfold schedStep
  by_cases hi : valence (rowAt NF i) < 3
  · simp only [hi, if_true]
  · by_cases hj : valence (rowAt NF j) < 3
    · simp only [hi, hj, if_true, if_false]
    · simp only [hi, hj, if_false]
      by_cases hij : i = j
      · rw [hij]
      · exact List.set_comm _ _ fun h =>
          hij (keptBefore_inj NF (Nat.not_lt.mp hi) (Nat.not_lt.mp hj) h)

end UxVerif.Dual
