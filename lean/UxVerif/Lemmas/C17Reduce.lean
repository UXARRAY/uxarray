/-
  The ten reductions of `NUMPY_AGGREGATIONS` as exact functions over ℚ (`Model/Aggregate.lean`):
  each depends only on the multiset of the row (`core_perm`), `min`/`max` are the least / greatest
  member, and what `accepts` says about an exact value (`accepts_of_isValue`, `accepts_exact_iff`).
-/
import Mathlib.Algebra.Order.Field.Rat
import Mathlib.Algebra.Order.BigOperators.Group.List
import UxVerif.Model.Aggregate

namespace UxVerif.Aggregate
open UxVerif

/-! ## the library's `sum`, `prod`, `min`, `max` -/

theorem qsum_cons (a : Rat) (l : List Rat) : qsum (a :: l) = a + qsum l := rfl
theorem qprod_cons (a : Rat) (l : List Rat) : qprod (a :: l) = a * qprod l := rfl

theorem qmin2_eq_min : qmin2 = min := funext fun a => funext fun b => (min_def a b).symm
theorem qmax2_eq_max : qmax2 = max := funext fun a => funext fun b => (max_def a b).symm

theorem qabs_eq_abs (a : Rat) : qabs a = |a| := by
  unfold qabs; split
  · rename_i h; exact (abs_of_nonneg h).symm
  · rename_i h; exact (abs_of_neg (not_le.mp h)).symm

theorem foldl_min_eq_iff {α : Type} [LinearOrder α] (xs : List α) (a m : α) :
    xs.foldl min a = m ↔ m ∈ a :: xs ∧ ∀ x ∈ a :: xs, m ≤ x := by
  induction xs generalizing a with
  | nil =>
    simp only [List.foldl_nil, List.mem_singleton, forall_eq]
    constructor
    · rintro rfl
      exact ⟨rfl, le_refl _⟩
    · exact fun h => h.1.symm
  | cons b xs ih =>
    rw [List.foldl_cons, ih]
    simp only [List.mem_cons, forall_eq_or_imp, le_min_iff]
    constructor
    · rintro ⟨h | h, ⟨ha, hb⟩, hx⟩
      · exact ⟨(min_choice a b).imp h.trans fun e => .inl (h.trans e), ha, hb, hx⟩
      · exact ⟨.inr (.inr h), ha, hb, hx⟩
    · rintro ⟨rfl | rfl | h, ha, hb, hx⟩
      · exact ⟨.inl (min_eq_left hb).symm, ⟨ha, hb⟩, hx⟩
      · exact ⟨.inl (min_eq_right ha).symm, ⟨ha, hb⟩, hx⟩
      · exact ⟨.inr h, ⟨ha, hb⟩, hx⟩

theorem qmin_spec (l : List Rat) (m : Rat) :
    qmin l = some m ↔ m ∈ l ∧ ∀ x ∈ l, m ≤ x := by
  cases l with
  | nil => simp [qmin]
  | cons a xs =>
    rw [qmin, qmin2_eq_min, Option.some.injEq]
    exact foldl_min_eq_iff xs a m

theorem qmax_spec (l : List Rat) (m : Rat) :
    qmax l = some m ↔ m ∈ l ∧ ∀ x ∈ l, x ≤ m := by
  cases l with
  | nil => simp [qmax]
  | cons a xs =>
    rw [qmax, qmax2_eq_max, Option.some.injEq]
    -- `max` is `min` of the dual order
    exact foldl_min_eq_iff (α := Ratᵒᵈ) xs a m

/-! ## The sorted row -/

theorem perm_insertQ (a : Rat) (l : List Rat) : (insertQ a l).Perm (a :: l) := by
  induction l with
  | nil => exact List.Perm.refl _
  | cons b l ih =>
    unfold insertQ; split
    · exact List.Perm.refl _
    · exact ((List.Perm.cons b ih).trans (List.Perm.swap a b l))

theorem perm_sortQ (l : List Rat) : (sortQ l).Perm l := by
  induction l with
  | nil => exact List.Perm.refl _
  | cons a l ih => exact (perm_insertQ a (sortQ l)).trans (List.Perm.cons a ih)

theorem insertQ_sorted (a : Rat) (l : List Rat) (h : l.Pairwise (· ≤ ·)) :
    (insertQ a l).Pairwise (· ≤ ·) := by
  induction l with
  | nil => exact List.pairwise_singleton _ _
  | cons b l ih =>
    obtain ⟨hb, hl⟩ := List.pairwise_cons.mp h
    unfold insertQ; split
    · rename_i hab
      refine List.pairwise_cons.mpr ⟨fun x hx => ?_, h⟩
      rcases List.mem_cons.mp hx with rfl | hx
      · exact hab
      · exact le_trans hab (hb x hx)
    · rename_i hab
      refine List.pairwise_cons.mpr ⟨fun x hx => ?_, ih hl⟩
      rcases List.mem_cons.mp ((perm_insertQ a l).mem_iff.mp hx) with rfl | hx
      · exact (not_le.mp hab).le
      · exact hb x hx

theorem sortQ_sorted (l : List Rat) : (sortQ l).Pairwise (· ≤ ·) := by
  induction l with
  | nil => exact List.Pairwise.nil
  | cons a l ih => exact insertQ_sorted a _ ih

theorem sortQ_length (l : List Rat) : (sortQ l).length = l.length := (perm_sortQ l).length_eq

/-- `np.median` of a row of odd length is one of its members -/
theorem qmedian_odd_mem (l : List Rat) (m : Rat) (hodd : l.length % 2 = 1)
    (h : qmedian l = some m) : m ∈ l := by
  have h0 : ¬ l.length = 0 := fun e => by rw [e] at hodd; exact absurd hodd (by decide)
  unfold qmedian at h
  simp only [sortQ_length, h0, hodd, if_true, if_false] at h
  exact (perm_sortQ l).mem_iff.mp (List.mem_of_getElem? h)

/-! ## permutation invariance -/

theorem qsum_perm {l₁ l₂ : List Rat} (h : l₁.Perm l₂) : qsum l₁ = qsum l₂ := h.sum_eq
theorem qprod_perm {l₁ l₂ : List Rat} (h : l₁.Perm l₂) : qprod l₁ = qprod l₂ := h.prod_eq

theorem qmin_perm {l₁ l₂ : List Rat} (h : l₁.Perm l₂) : qmin l₁ = qmin l₂ :=
  Option.ext fun m => by simp only [qmin_spec, h.mem_iff]

theorem qmax_perm {l₁ l₂ : List Rat} (h : l₁.Perm l₂) : qmax l₁ = qmax l₂ :=
  Option.ext fun m => by simp only [qmax_spec, h.mem_iff]

theorem sortQ_perm {l₁ l₂ : List Rat} (h : l₁.Perm l₂) : sortQ l₁ = sortQ l₂ :=
  List.Perm.eq_of_pairwise (fun _ _ _ _ h1 h2 => le_antisymm h1 h2) (sortQ_sorted l₁)
    (sortQ_sorted l₂) ((perm_sortQ l₁).trans (h.trans (perm_sortQ l₂).symm))

theorem qmedian_perm {l₁ l₂ : List Rat} (h : l₁.Perm l₂) : qmedian l₁ = qmedian l₂ := by
  unfold qmedian; rw [sortQ_perm h]

theorem qmean_perm {l₁ l₂ : List Rat} (h : l₁.Perm l₂) : qmean l₁ = qmean l₂ := by
  unfold qmean; rw [qsum_perm h, h.length_eq]

theorem qvar_perm (ddof : Nat) {l₁ l₂ : List Rat} (h : l₁.Perm l₂) :
    qvar ddof l₁ = qvar ddof l₂ := by
  unfold qvar
  rw [h.length_eq, qsum_perm h]
  simp only
  rw [qsum_perm (h.map _)]

theorem core_perm (op : Red) (ddof : Nat) {l₁ l₂ : List Rat} (h : l₁.Perm l₂) :
    core op ddof l₁ = core op ddof l₂ := by
  cases op with
  | mean => exact qmean_perm h
  | max => exact qmax_perm h
  | min => exact qmin_perm h
  | prod => exact congrArg some (qprod_perm h)
  | sum => exact congrArg some (qsum_perm h)
  | std | var => exact qvar_perm ddof h
  | median => exact qmedian_perm h
  | all => exact congrArg (fun b => some (ofBool b)) h.all_eq
  | any => exact congrArg (fun b => some (ofBool b)) h.any_eq

theorem tol_perm (op : Red) (ddof : Nat) {l₁ l₂ : List Rat} (h : l₁.Perm l₂) :
    tol op ddof l₁ = tol op ddof l₂ := by
  unfold tol absSum
  rw [h.length_eq, qsum_perm (h.map qabs), qprod_perm h]

theorem accepts_perm (op : Red) (ddof : Nat) {l₁ l₂ : List Rat} (h : l₁.Perm l₂) (y : Rat) :
    accepts op ddof l₁ y = accepts op ddof l₂ y := by
  unfold accepts
  rw [core_perm op ddof h, tol_perm op ddof h]

theorem map_corner_perm (op : Red) (ddof : Nat) (data : Int → Rat) {t t' : Table}
    (hperm : List.Forall₂ (fun r r' => (faceOf r).Perm (faceOf r')) t t') :
    t.map (fun r => some (core op ddof ((faceOf r).map data)))
      = t'.map (fun r => some (core op ddof ((faceOf r).map data))) := by
  rw [← List.forall₂_eq_eq_eq, List.forall₂_map_left_iff, List.forall₂_map_right_iff]
  exact hperm.imp fun _ _ hr => congrArg some (core_perm op ddof (hr.map data))

/-! ## the rounding allowance -/

theorem qabs_nonneg (a : Rat) : 0 ≤ qabs a := (qabs_eq_abs a).symm ▸ abs_nonneg a

theorem qabs_zero : qabs 0 = 0 := if_pos Rat.le_refl

theorem absSum_nonneg (l : List Rat) : 0 ≤ absSum l := by
  apply List.sum_nonneg
  intro x hx
  obtain ⟨a, _, rfl⟩ := List.mem_map.mp hx
  exact qabs_nonneg a

theorem eps_pos : 0 < eps := one_div_pos.mpr (by decide)

theorem tol_nonneg (op : Red) (ddof : Nat) (row : List Rat) : 0 ≤ tol op ddof row := by
  have hA := absSum_nonneg row
  have he := eps_pos.le
  have hn : (0 : Rat) ≤ (row.length : Rat) := Rat.natCast_nonneg
  have h2 : (0 : Rat) ≤ 2 := by decide
  have hn2 : (0 : Rat) ≤ (row.length : Rat) + 2 := Rat.add_nonneg hn h2
  have hd : (0 : Rat) ≤ ((row.length - ddof : Nat) : Rat) := Rat.natCast_nonneg
  have h16 : (0 : Rat) ≤ 16 := by decide
  have hdiv : ∀ {a b : Rat}, 0 ≤ a → 0 ≤ b → 0 ≤ a / b := div_nonneg
  have hvar := hdiv (Rat.mul_nonneg (Rat.mul_nonneg (Rat.mul_nonneg (Rat.mul_nonneg
    (Rat.mul_nonneg h16 hn2) hn2) he) hA) hA) hd
  cases op with
  | sum => exact Rat.mul_nonneg (Rat.mul_nonneg hn he) hA
  | mean => exact hdiv (Rat.mul_nonneg (Rat.mul_nonneg hn2 he) hA) hn
  | prod => exact Rat.mul_nonneg (Rat.mul_nonneg hn he) (qabs_nonneg _)
  | median => exact Rat.mul_nonneg (Rat.mul_nonneg h2 he) hA
  | var => exact hvar
  | std => exact hvar
  | max | min | all | any => exact Rat.le_refl

/-! ## `accepts` -/

theorem accepts_none {op : Red} {ddof : Nat} {row : List Rat} (y : Rat)
    (h : core op ddof row = none) : accepts op ddof row y = false := by
  rw [accepts, h]

/-- `y = √(v + δ)(1 + ε)`, `|δ| ≤ tol`, `|ε| ≤ eps` gives `|y² − v| ≤ 2·tol + 4·eps·v` -/
theorem accepts_std {ddof : Nat} {row : List Rat} {v : Rat} (y : Rat)
    (h : core .std ddof row = some v) :
    accepts .std ddof row y
      = (decide (0 ≤ y) && decide (qabs (y * y - v) ≤ 2 * tol .std ddof row + 4 * eps * v)) := by
  rw [accepts, h]

theorem accepts_of_ne_std {op : Red} {ddof : Nat} {row : List Rat} {v : Rat} (y : Rat)
    (hop : op ≠ .std) (h : core op ddof row = some v) :
    accepts op ddof row y = decide (qabs (y - v) ≤ tol op ddof row) := by
  rw [accepts, h]
  cases op
  case std => exact absurd rfl hop
  all_goals rfl

theorem isValue_of_ne_std {op : Red} (ddof : Nat) (row : List Rat) (y : Rat) (hop : op ≠ .std) :
    IsValue op ddof row y ↔ core op ddof row = some y := by
  cases op
  case std => exact absurd rfl hop
  all_goals exact Iff.rfl

theorem accepts_of_isValue (op : Red) (ddof : Nat) (row : List Rat) (y : Rat)
    (h : IsValue op ddof row y) : accepts op ddof row y = true := by
  by_cases hop : op = .std
  · subst hop
    obtain ⟨h0, hv⟩ := h
    rw [accepts_std y hv, Rat.sub_self, qabs_zero, Bool.and_eq_true, decide_eq_true_eq,
      decide_eq_true_eq]
    exact ⟨h0, Rat.add_nonneg (Rat.mul_nonneg (by decide) (tol_nonneg _ _ _))
      (Rat.mul_nonneg (Rat.mul_nonneg (by decide) eps_pos.le) (Rat.mul_nonneg h0 h0))⟩
  · rw [accepts_of_ne_std y hop ((isValue_of_ne_std ddof row y hop).mp h), Rat.sub_self, qabs_zero]
    exact decide_eq_true (tol_nonneg op ddof row)

theorem accepts_exact_iff (op : Red) (ddof : Nat) (row : List Rat) (y : Rat)
    (hop : op = .min ∨ op = .max ∨ op = .all ∨ op = .any) :
    accepts op ddof row y = true ↔ IsValue op ddof row y := by
  have hstd : op ≠ .std := by rcases hop with rfl | rfl | rfl | rfl <;> exact Red.noConfusion
  have htol : tol op ddof row = 0 := by rcases hop with rfl | rfl | rfl | rfl <;> rfl
  rw [isValue_of_ne_std ddof row y hstd]
  cases hc : core op ddof row with
  | none => simp [accepts_none y hc]
  | some v =>
    rw [accepts_of_ne_std y hstd hc, htol, decide_eq_true_eq, qabs_eq_abs, abs_nonpos_iff,
      sub_eq_zero, Option.some.injEq]
    exact eq_comm

theorem judgeRows_forall₂ (op : Red) (ddof : Nat) (rows : List (List Rat))
    (out : List (Option Rat)) :
    judgeRows op ddof rows out = true ↔
      List.Forall₂ (fun row o => ∃ y, o = some y ∧ accepts op ddof row y = true) rows out := by
  rw [judgeRows, Bool.and_eq_true, decide_eq_true_eq, List.all_eq_true, List.forall₂_iff_zip]
  refine and_congr_right fun _ => ⟨fun h a b hab => ?_, fun h x hx => ?_⟩
  · cases b with
    | none => exact absurd (h _ hab) Bool.false_ne_true
    | some y => exact ⟨y, rfl, h _ hab⟩
  · obtain ⟨y, hy, hacc⟩ := h (a := x.1) (b := x.2) hx
    rw [hy]
    exact hacc

end UxVerif.Aggregate
