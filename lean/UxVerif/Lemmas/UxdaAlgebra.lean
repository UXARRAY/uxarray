/-
  Facts about the model `UxVerif.Model.UxdaAlgebra` alone (C10): what `step` needs, then `step`,
  then `run`, then the independent indexer part.  xarray operations go through `step_of_kind`,
  programs through `run_preserves`.  Core Lean only.
-/
import UxVerif.Model.UxdaAlgebra
import UxVerif.Lemmas.ListBasics

namespace UxVerif.UxdaAlgebra

/-! ## constructor paths -/

theorem build_good {p : Path} {a : Arr} {ds : Dims} (hp : p.good = true) (ha : a.isUx = true) :
    build p a ds = ⟨true, a.grid, ds⟩ := by
  cases p <;> simp_all [build, Path.good]

theorem build_not_ux (p : Path) {a : Arr} (ds : Dims) (ha : a.isUx = false) :
    build p a ds = ⟨false, none, ds⟩ := by
  simp [build, ha]

theorem build_plainCtor (a : Arr) (ds : Dims) : build .plainCtor a ds = ⟨false, none, ds⟩ := by
  unfold build
  split <;> rfl

theorem build_classCtor_grid (a : Arr) (ds : Dims) : (build .classCtor a ds).grid = none := by
  unfold build
  split <;> rfl

theorem build_dims (p : Path) (a : Arr) (ds : Dims) : (build p a ds).dims = ds := by
  unfold build
  split
  · split <;> rfl
  · rfl

/-! ## dimensions and counts -/

theorem swap_isGrid (d : Dim) : d.swap.isGrid = d.isGrid := by
  cases d <;> rfl

theorem dual_get_swap (c : Counts) (d : Dim) : c.dual.get d.swap = c.get d := by
  cases d <;> rfl

/-! ## the attached grid, the heap -/

theorem cur_eq_some {s : State} {g : Nat} {r : GridRec} :
    cur s = some (g, r) ↔ s.arr.isUx = true ∧ s.arr.grid = some g ∧ s.heap[g]? = some r := by
  unfold cur
  cases s.arr.isUx with
  | false => simp
  | true =>
    cases s.arr.grid with
    | none => simp
    | some g' =>
      simp only [if_true, Option.map_eq_some_iff, Prod.mk.injEq, Option.some.injEq, true_and]
      constructor
      · rintro ⟨r', hr, rfl, rfl⟩; exact ⟨rfl, hr⟩
      · rintro ⟨rfl, hr⟩; exact ⟨r, hr, rfl, rfl⟩

theorem heap_append_last (h : Heap) (r : GridRec) : (h ++ [r])[h.length]? = some r := by
  simp

theorem freshStore_fresh (h : Heap) : ∀ q ∈ h, q.store ≠ freshStore h := by
  intro q hq
  -- `le_foldl_max`: start ≤ fold ∧ every member ≤ fold
  have := (le_foldl_max (h.map (·.store)) 0).2 q.store (List.mem_map.mpr ⟨q, hq, rfl⟩)
  unfold freshStore
  omega

/-! ## `centred` -/

theorem centred_eq_some {ds : Dims} {d : Dim} :
    centred ds = some d ↔ ∃ n, ds.filter (fun p => p.1.isGrid) = [(d, n)] := by
  unfold centred
  split
  · rename_i q hq
    constructor
    · intro h; cases h; exact ⟨q.2, hq⟩
    · rintro ⟨n, h⟩; rw [hq] at h; cases h; rfl
  · rename_i hne
    constructor
    · intro h; cases h
    · rintro ⟨n, h⟩; exact absurd h (hne _)

theorem centred_only {ds : Dims} {d : Dim} (hc : centred ds = some d) :
    ∀ p ∈ ds, p.1.isGrid = true → p.1 = d := by
  intro p hp hg
  obtain ⟨n, hn⟩ := centred_eq_some.mp hc
  have : p ∈ [(d, n)] := hn ▸ List.mem_filter.mpr ⟨hp, hg⟩
  rw [List.mem_singleton.mp this]

theorem centred_isGrid {ds : Dims} {d : Dim} (hc : centred ds = some d) : d.isGrid = true := by
  obtain ⟨n, hn⟩ := centred_eq_some.mp hc
  have : (d, n) ∈ ds.filter (fun p => p.1.isGrid) := hn ▸ List.mem_singleton_self _
  exact (List.mem_filter.mp this).2

theorem centred_perm {ds nd : Dims} {d : Dim} (hp : nd.Perm ds) (h : centred nd = some d) :
    centred ds = some d := by
  obtain ⟨n, hn⟩ := centred_eq_some.mp h
  exact centred_eq_some.mpr ⟨n, List.perm_singleton.mp (hn ▸ (hp.filter _).symm)⟩

/-! ## one step, operation by operation

  `step_gridIsel` and `step_remap` are used on states without the invariant (`remap_result_dim`,
  `isel_norm_shape`), so they PRODUCE `cur s = some (g, r)`; `step_deepCopy` and `step_lastDim` are
  only used under it and TAKE it.  `.copy false`, `.getDual` and `.getDualR` are unfolded where they
  are used once, in `step_good` (Props/C10). -/

/-- an operation that has a class is an xarray operation: plain xarray's shape, built through its
    class's path -/
theorem step_of_kind {T : Table} {s s' : State} {op : Op} {k : XKind} (hk : op.kind = some k)
    (h : step T s op = some s') :
    ∃ ds, xdims op s.arr.dims = some ds ∧ s' = { s with arr := build (T k) s.arr ds } := by
  have hx : step T s op = stepX T s op := by
    cases op with
    | copy _ _ | gridIsel _ | integrate | gradient | difference | topoAgg _ | remap _ _
    | getDual _ _ | getDualR _ => cases hk
    | _ => rfl
  rw [hx, stepX, hk] at h
  cases hxd : xdims op s.arr.dims with
  | none => rw [hxd] at h; cases h
  | some ds => rw [hxd] at h; cases h; exact ⟨ds, rfl, rfl⟩

theorem isX_cases {op : Op} (h : op.isX = true) :
    (∃ deep f, op = .copy deep f) ∨ ∃ k, op.kind = some k := by
  unfold Op.isX at h
  split at h
  · exact Or.inl ⟨_, _, rfl⟩
  · exact Or.inr (Option.isSome_iff_exists.mp h)

theorem step_not_ux {T : Table} {s s' : State} {op : Op} (hx : op.isX = true)
    (hu : s.arr.isUx = false) (h : step T s op = some s') : s'.arr.isUx = false := by
  rcases isX_cases hx with ⟨deep, f, rfl⟩ | ⟨k, hk⟩
  · cases deep with
    | false => cases h; exact congrArg Arr.isUx (build_not_ux _ _ hu)
    | true =>
      simp only [step, hu, Bool.false_eq_true, if_false, Option.some.injEq] at h
      rw [← h]; exact hu
  · obtain ⟨ds, -, rfl⟩ := step_of_kind hk h
    exact congrArg Arr.isUx (build_not_ux _ _ hu)

theorem step_gridIsel {T : Table} {s s' : State} {c : Counts}
    (h : step T s (.gridIsel c) = some s') :
    ∃ g r d, cur s = some (g, r) ∧ centred s.arr.dims = some d ∧
      s' = ⟨s.heap ++ [⟨c, freshStore s.heap⟩],
            ⟨true, some s.heap.length, setLen s.arr.dims d (c.get d)⟩⟩ := by
  rw [step] at h
  split at h
  · rename_i x d hx hcd
    cases h
    exact ⟨x.1, x.2, d, hx, hcd, rfl⟩
  · cases h

theorem step_remap {T : Table} {s s' : State} {g2 : Nat} {dest : Dim}
    (h : step T s (.remap g2 dest) = some s') :
    ∃ g r r2 d, cur s = some (g, r) ∧ s.heap[g2]? = some r2 ∧ centred s.arr.dims = some d ∧
      s.arr.dims.getLast? = some (d, r.counts.get d) ∧
      s' = { s with arr := ⟨true, some g2, setLast s.arr.dims dest (r2.counts.get dest)⟩ } := by
  rw [step] at h
  split at h
  · rename_i g r r2 d hc h2 hcd
    obtain ⟨hcond, rfl⟩ := Option.ite_some_none_eq_some.mp h
    exact ⟨g, r, r2, d, hc, h2, hcd, eq_of_beq (Bool.and_eq_true_iff.mp hcond).2, rfl⟩
  · cases h

theorem step_deepCopy {T : Table} {s s' : State} {f : Bool} {g : Nat} {r : GridRec}
    (hc : cur s = some (g, r)) (h : step T s (.copy true f) = some s') :
    s' = ⟨s.heap ++ [⟨r.counts, if f then freshStore s.heap else r.store⟩],
          ⟨true, some s.heap.length, s.arr.dims⟩⟩ := by
  rw [step, if_pos (cur_eq_some.mp hc).1, hc] at h
  exact (Option.some.inj h).symm

/-- uxarray's operations on the element dimension: `integrate`, `gradient`, `difference`,
    `topological_*` -/
def Op.onLastDim : Op → Bool
  | .integrate | .gradient | .difference | .topoAgg _ => true
  | _ => false

theorem step_lastDim {T : Table} {s s' : State} {op : Op} {g : Nat} {r : GridRec}
    (hop : op.onLastDim = true) (hc : cur s = some (g, r)) (h : step T s op = some s') :
    ∃ ds, s' = { s with arr := ⟨true, some g, ds⟩ } ∧
      (ds = s.arr.dims.dropLast ∨ ∃ d, ds = setLast s.arr.dims d (r.counts.get d)) := by
  have of_guard : ∀ {c : Prop} [Decidable c] {x : State},
      (if c then some x else none) = some s' → s' = x :=
    fun h => (Option.ite_some_none_eq_some.mp h).2.symm
  cases op with
  | integrate => rw [step, hc] at h; exact ⟨_, of_guard h, Or.inl rfl⟩
  | gradient => rw [step, hc] at h; exact ⟨_, of_guard h, Or.inr ⟨.edge, rfl⟩⟩
  | difference => rw [step, hc] at h; exact ⟨_, of_guard h, Or.inr ⟨.edge, rfl⟩⟩
  | topoAgg d => rw [step, hc] at h; exact ⟨_, of_guard h, Or.inr ⟨d, rfl⟩⟩
  | _ => cases hop

/-! ## programs -/

theorem run_cons (T : Table) (s : State) (op : Op) (p : List Op) :
    run T s (op :: p) = (step T s op).bind (fun s1 => run T s1 p) := by
  rw [run]
  cases step T s op <;> rfl

theorem run_preserves {T : Table} {P : State → Prop} {Q : Op → Prop}
    (hstep : ∀ s s' op, Q op → P s → step T s op = some s' → P s') :
    ∀ (p : List Op) (s s' : State), (∀ op ∈ p, Q op) → P s → run T s p = some s' → P s'
  | [], s, s', _, hs, h => by cases h; exact hs
  | op :: p, s, s', hq, hs, h => by
    rw [run_cons] at h
    obtain ⟨s1, h1, h2⟩ := Option.bind_eq_some_iff.mp h
    exact run_preserves hstep p s1 s' (fun o ho => hq o (List.mem_cons_of_mem _ ho))
      (hstep s s1 op (hq op List.mem_cons_self) hs h1) h2

theorem run_append {T : Table} : ∀ (p q : List Op) (s : State),
    run T s (p ++ q) = (run T s p).bind (fun s1 => run T s1 q)
  | [], q, s => rfl
  | op :: p, q, s => by
    rw [List.cons_append, run_cons, run_cons, Option.bind_assoc]
    exact congrArg _ (funext (run_append p q))

/-! ## indexer forms

  The bound for `normIdx` itself, `normIdx_lt`, is a property theorem and stands in Props/C10; here
  are its three parts. -/

theorem maskPos_cons (k : Nat) (b : Bool) (m : List Bool) :
    maskPos k (b :: m) = (if b then [k] else []) ++ maskPos (k + 1) m := by
  cases b <;> rfl

theorem maskPos_length : ∀ (k : Nat) (m : List Bool), (maskPos k m).length = m.count true
  | _, [] => rfl
  | k, b :: m => by
    rw [maskPos_cons, List.length_append, maskPos_length (k + 1) m]
    cases b <;> simp [Nat.add_comm]

/-- a mask with a `false` selects fewer than `n` positions -/
theorem count_true_lt {m : List Bool} (h : false ∈ m) : m.count true < m.length :=
  Nat.lt_of_le_of_ne List.count_le_length fun e => nomatch List.count_eq_length.mp e false h

theorem mem_maskPos : ∀ (k : Nat) (m : List Bool) (i : Nat),
    i ∈ maskPos k m ↔ ∃ j, i = k + j ∧ m[j]? = some true
  | _, [], i => by simp [maskPos]
  | k, b :: m, i => by
    rw [maskPos_cons, List.mem_append, mem_maskPos (k + 1) m i]
    constructor
    · rintro (h | ⟨j, rfl, hj⟩)
      · cases b with
        | true => exact ⟨0, List.mem_singleton.mp h, rfl⟩
        | false => cases h
      · exact ⟨j + 1, Nat.add_right_comm k 1 j, hj⟩
    · rintro ⟨j, rfl, hj⟩
      cases j with
      | zero => cases hj; exact Or.inl (List.mem_singleton_self _)
      | succ j => exact Or.inr ⟨j, (Nat.add_right_comm k 1 j).symm, hj⟩

theorem intPos_lt {n : Nat} {i : Int} {p : Nat} (h : intPos n i = some p) : p < n := by
  unfold intPos at h
  split at h
  · rename_i hc
    cases h
    exact (Int.toNat_lt hc.1).mpr hc.2
  · split at h
    · rename_i hc
      cases h
      exact (Int.toNat_lt (by omega)).mpr (by omega)
    · cases h

/-- an integer list selects as many positions as it has entries, all inside the dimension -/
theorem mapM_intPos {n : Nat} : ∀ (l : List Int) (r : List Nat), l.mapM (intPos n) = some r →
    r.length = l.length ∧ ∀ p ∈ r, p < n
  | [], r, h => by cases h; exact ⟨rfl, nofun⟩
  | i :: l, r, h => by
    rw [List.mapM_cons] at h
    obtain ⟨p, hi, h⟩ := Option.bind_eq_some_iff.mp h
    obtain ⟨r', hl, h⟩ := Option.bind_eq_some_iff.mp h
    cases h
    obtain ⟨h1, h2⟩ := mapM_intPos l r' hl
    exact ⟨congrArg (· + 1) h1, List.forall_mem_cons.mpr ⟨intPos_lt hi, h2⟩⟩

theorem sliceIdx_lt {n : Nat} {a b : Option Int} {st : Int} {l : List Nat}
    (h : sliceIdx n a b st = some l) : ∀ p ∈ l, p < n := by
  unfold sliceIdx at h
  extract_lets N wrap at h
  split at h
  · cases h
  · split at h
    · cases h
      intro p hp
      exact List.mem_range.mp (List.mem_filter.mp hp).1
    · cases h
      intro p hp
      exact List.mem_range.mp (List.mem_filter.mp (List.mem_reverse.mp hp)).1

end UxVerif.UxdaAlgebra
