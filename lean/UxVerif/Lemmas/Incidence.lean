/-
  Lemmas about `Model/Incidence.lean`: what the loops over the faces feed a cell (`fedFaces`), `Pre`
  clause by clause, the two slots of an `edge_face_connectivity` row (`edgeFace_cases`), `padTo`,
  `maxLen` and the rows of `nodeFace` / `faceFace`, the events of the face→face loop.
  Core Lean only.
-/
import UxVerif.Lemmas.Keyed
import UxVerif.Lemmas.Rows

namespace UxVerif.Incidence
open UxVerif

/-! ### `fedFaces` -/

/-- faces `0 … F-1` in ascending order, face `f` repeated `c f` times: what one cell is fed when
    row `f` mentions it `c f` times (`feed_faceLoop`) -/
def fedFaces (F : Nat) (c : Nat → Nat) : List Int :=
  (List.range F).flatMap (fun f => List.replicate (c f) (Int.ofNat f))

theorem fedFaces_succ (F : Nat) (c : Nat → Nat) :
    fedFaces (F + 1) c = fedFaces F c ++ List.replicate (c F) (Int.ofNat F) := by
  simp [fedFaces, List.range_succ]

theorem mem_fedFaces {F : Nat} {c : Nat → Nat} {x : Int} :
    x ∈ fedFaces F c ↔ ∃ f, f < F ∧ 0 < c f ∧ x = Int.ofNat f := by
  simp only [fedFaces, List.mem_flatMap, List.mem_range, List.mem_replicate]
  constructor
  · rintro ⟨f, hf, hc, rfl⟩; exact ⟨f, hf, Nat.pos_of_ne_zero hc, rfl⟩
  · rintro ⟨f, hf, hc, rfl⟩; exact ⟨f, hf, Nat.ne_of_gt hc, rfl⟩

theorem count_fedFaces (F : Nat) (c : Nat → Nat) (f : Nat) :
    (fedFaces F c).count (Int.ofNat f) = if f < F then c f else 0 := by
  induction F with
  | zero => rfl
  | succ F ih =>
    rw [fedFaces_succ, List.count_append, ih, List.count_replicate]
    by_cases h : f = F
    · subst h; simp
    · have h' : ¬ ((F : Int) = (f : Int)) := fun hh => h (by omega)
      have : (f < F + 1) = (f < F) := by rw [eq_iff_iff]; omega
      simp [h', this]

theorem length_fedFaces (F : Nat) (c : Nat → Nat) :
    (fedFaces F c).length = ((List.range F).map c).sum := by
  simp [fedFaces, List.length_flatMap]

theorem fedFaces_ascending (F : Nat) (c : Nat → Nat) : (fedFaces F c).Pairwise (· ≤ ·) := by
  unfold fedFaces
  rw [List.pairwise_flatMap]
  refine ⟨fun f _ => List.pairwise_replicate.mpr (Or.inr (Int.le_refl _)), ?_⟩
  refine List.Pairwise.imp ?_ List.pairwise_lt_range
  intro a b hab x hx y hy
  rw [(List.mem_replicate.mp hx).2, (List.mem_replicate.mp hy).2]
  exact Int.ofNat_le.mpr (Nat.le_of_lt hab)

/-! ### counting in a row of indices -/

theorem countP_toNat_eq_count {r : List Int} (h0 : ∀ y ∈ r, 0 ≤ y) (e : Nat) :
    r.countP (fun y => y.toNat == e) = r.count (Int.ofNat e) := by
  rw [List.count_eq_countP]
  apply List.countP_congr
  intro y hy
  have := Int.toNat_of_nonneg (h0 y hy)
  rw [beq_iff_eq, beq_iff_eq]
  exact ⟨fun h => by rw [← this, h]; rfl, fun h => by rw [h]; rfl⟩

-- the next two are used by `Lemmas/C03Transport`
theorem count_le_countP_toNat (r : List Int) (x : Int) :
    r.count x ≤ r.countP (fun y => y.toNat == x.toNat) := by
  rw [List.count_eq_countP]
  apply List.countP_mono_left
  intro y _ hy
  have : y = x := by simpa using hy
  simp [this]

theorem row_nodup_iff {r : List Int} {nEdge : Nat} (hval : ∀ e ∈ r, 0 ≤ e ∧ e < nEdge) :
    r.Nodup ↔ ∀ e, e < nEdge → r.count (Int.ofNat e) ≤ 1 := by
  rw [List.nodup_iff_count]
  constructor
  · intro h e _; exact h _
  · intro h x
    by_cases hx : x ∈ r
    · have hv := hval x hx
      rw [← Int.toNat_of_nonneg hv.1]
      exact h _ ((Int.toNat_lt hv.1).mpr hv.2)
    · rw [List.count_eq_zero_of_not_mem hx]; exact Nat.zero_le _

/-! ### what `efEvents` / `nfEvents` feed a cell -/

theorem feed_faceLoop (F : Nat) (rows : Nat → List Int) (k : Nat) :
    feed ((List.range F).flatMap (fun f => (rows f).map (fun y => (y.toNat, Int.ofNat f)))) k
      = fedFaces F (fun f => (rows f).countP (fun y => y.toNat == k)) := by
  unfold fedFaces
  rw [feed_flatMap]
  simp only [feed_row]

theorem feed_efEvents (FE : Table) (N : List Nat) (e : Nat) :
    feed (efEvents FE N) e
      = fedFaces FE.length (fun f => (faceEdgesOf FE N f).countP (fun y => y.toNat == e)) :=
  feed_faceLoop FE.length (faceEdgesOf FE N) e

theorem feed_nfEvents (t : Table) (v : Nat) :
    feed (nfEvents t) v
      = fedFaces t.length (fun f => (real (rowAt t f)).countP (fun y => y.toNat == v)) :=
  feed_faceLoop t.length (fun f => real (rowAt t f)) v

theorem count_feed_face (FE : Table) (N : List Nat) (e f : Nat) :
    (feed (efEvents FE N) e).count (Int.ofNat f)
      = if f < FE.length then (faceEdgesOf FE N f).countP (fun y => y.toNat == e) else 0 := by
  rw [feed_efEvents, count_fedFaces]

theorem mem_fedFaces_rows {F : Nat} {rows : Nat → List Int}
    (h0 : ∀ f, f < F → ∀ y ∈ rows f, 0 ≤ y) (e : Nat) (x : Int) :
    x ∈ fedFaces F (fun f => (rows f).countP (fun y => y.toNat == e)) ↔
      ∃ f, f < F ∧ x = Int.ofNat f ∧ Int.ofNat e ∈ rows f := by
  rw [mem_fedFaces]
  refine exists_congr fun f => and_congr_right fun hf => ?_
  rw [countP_toNat_eq_count (h0 f hf), List.count_pos_iff]
  exact and_comm

theorem ofNat_mem_fedFaces_rows {F : Nat} {rows : Nat → List Int}
    (h0 : ∀ f, f < F → ∀ y ∈ rows f, 0 ≤ y) (e : Nat) {f : Nat} (hf : f < F) :
    Int.ofNat f ∈ fedFaces F (fun f => (rows f).countP (fun y => y.toNat == e)) ↔
      Int.ofNat e ∈ rows f := by
  rw [mem_fedFaces_rows h0]
  constructor
  · rintro ⟨f', _, heq, hm⟩
    rwa [Int.ofNat.inj heq]
  · exact fun hm => ⟨f, hf, rfl, hm⟩

theorem mem_feed_ef {FE : Table} {N : List Nat}
    (h0 : ∀ f, f < FE.length → ∀ y ∈ faceEdgesOf FE N f, 0 ≤ y) (e : Nat) (x : Int) :
    x ∈ feed (efEvents FE N) e ↔
      ∃ f, f < FE.length ∧ x = Int.ofNat f ∧ Int.ofNat e ∈ faceEdgesOf FE N f := by
  rw [feed_efEvents]; exact mem_fedFaces_rows h0 e x

theorem ofNat_mem_feed_ef {FE : Table} {N : List Nat}
    (h0 : ∀ f, f < FE.length → ∀ y ∈ faceEdgesOf FE N f, 0 ≤ y) (e : Nat)
    {f : Nat} (hf : f < FE.length) :
    Int.ofNat f ∈ feed (efEvents FE N) e ↔ Int.ofNat e ∈ faceEdgesOf FE N f := by
  rw [feed_efEvents]; exact ofNat_mem_fedFaces_rows h0 e hf

theorem feed_nodup_iff {FE : Table} {N : List Nat}
    (h0 : ∀ f, f < FE.length → ∀ y ∈ faceEdgesOf FE N f, 0 ≤ y) (e : Nat) :
    (feed (efEvents FE N) e).Nodup
      ↔ ∀ f, f < FE.length → (faceEdgesOf FE N f).count (Int.ofNat e) ≤ 1 := by
  rw [List.nodup_iff_count]
  constructor
  · intro h f hf
    have := h (Int.ofNat f)
    rwa [count_feed_face, if_pos hf, countP_toNat_eq_count (h0 f hf)] at this
  · intro h a
    by_cases ha : a ∈ feed (efEvents FE N) e
    · obtain ⟨f, hf, rfl, _⟩ := (mem_feed_ef h0 e a).mp ha
      rw [count_feed_face, if_pos hf, countP_toNat_eq_count (h0 f hf)]
      exact h f hf
    · rw [List.count_eq_zero_of_not_mem ha]; omega

/-! ### `Pre`, clause by clause -/

section Pre
variable {n nEdge : Nat} {t FE : Table} {N : List Nat}

theorem Pre.feLen (h : Pre n t FE N nEdge) : FE.length = t.length := h.1

theorem Pre.valid (h : Pre n t FE N nEdge) :
    ∀ f, f < FE.length → ∀ e ∈ faceEdgesOf FE N f, 0 ≤ e ∧ e < nEdge := h.2.1

theorem Pre.nonneg (h : Pre n t FE N nEdge) :
    ∀ f, f < FE.length → ∀ y ∈ faceEdgesOf FE N f, 0 ≤ y :=
  fun f hf y hy => (h.valid f hf y hy).1

theorem Pre.manifold (h : Pre n t FE N nEdge) {e : Nat} (he : e < nEdge) :
    1 ≤ incidence FE N e ∧ incidence FE N e ≤ 2 := h.2.2.1 e he

theorem Pre.nodes (h : Pre n t FE N nEdge) :
    ∀ f, f < t.length → ∀ v ∈ real (rowAt t f), 0 ≤ v ∧ v < n := h.2.2.2

end Pre

/-! ### the two slots of an `edge_face_connectivity` row -/

/-- the first face fed, then the last other one (or padding) -/
theorem foldl_slotUpd_cons (a : Int) (ha : a ≠ FILL) (l : List Int) :
    (a :: l).foldl slotUpd (FILL, FILL) = (a, l.getLastD FILL) := by
  have step : ∀ (l : List Int) (b : Int), l.foldl slotUpd (a, b) = (a, l.getLastD b) := by
    intro l
    induction l with
    | nil => intro b; rfl
    | cons c l ih =>
      intro b
      have : slotUpd (a, b) c = (a, c) := by simp [slotUpd, ha]
      rw [List.foldl_cons, this, ih, List.getLastD_cons]
  have h0 : slotUpd (FILL, FILL) a = (a, FILL) := by simp [slotUpd]
  rw [List.foldl_cons, h0, step]

theorem slots_distinct (l : List Int) (hne : l ≠ []) (hnd : l.Nodup) (hf : ∀ x ∈ l, x ≠ FILL) :
    (l.foldl slotUpd (FILL, FILL)).1 ≠ (l.foldl slotUpd (FILL, FILL)).2 := by
  cases l with
  | nil => exact absurd rfl hne
  | cons a l =>
    have ha := hf a List.mem_cons_self
    rw [foldl_slotUpd_cons a ha l]
    rcases List.mem_cons.mp (List.getLastD_mem_cons (l := l) (a := FILL)) with h | h
    · rw [h]; exact ha
    · intro (hab : a = l.getLastD FILL)
      exact (List.nodup_cons.mp hnd).1 (hab ▸ h)

theorem edgeFace_length (FE : Table) (N : List Nat) (nEdge : Nat) :
    (edgeFace FE N nEdge).length = nEdge :=
  keyedFold_replicate_length _ _ _ _

theorem edgeFace_get (FE : Table) (N : List Nat) (nEdge e : Nat) (he : e < nEdge) :
    (edgeFace FE N nEdge).getD e (FILL, FILL)
      = (feed (efEvents FE N) e).foldl slotUpd (FILL, FILL) := by
  rw [edgeFace, List.getD_eq_getElem?_getD, keyedFold_replicate_get _ _ _ _ _ he]
  rfl

theorem edgeFace_mem {FE : Table} {N : List Nat} {nEdge : Nat} {p : Int × Int}
    (hp : p ∈ edgeFace FE N nEdge) :
    ∃ e, e < nEdge ∧ p = (edgeFace FE N nEdge).getD e (FILL, FILL) := by
  obtain ⟨e, he, rfl⟩ := List.getElem_of_mem hp
  exact ⟨e, edgeFace_length FE N nEdge ▸ he, (getD_lt _ he).symm⟩

/-- an edge is fed one face, or two in ascending order, and its row holds them so (`h0` is
    `Pre.nonneg`, `hinc` is `Pre.manifold he`) -/
theorem edgeFace_cases {nEdge : Nat} {FE : Table} {N : List Nat}
    (h0 : ∀ f, f < FE.length → ∀ y ∈ faceEdgesOf FE N f, 0 ≤ y) {e : Nat} (he : e < nEdge)
    (hinc : 1 ≤ incidence FE N e ∧ incidence FE N e ≤ 2) :
    (∃ fa, feed (efEvents FE N) e = [Int.ofNat fa] ∧
      (edgeFace FE N nEdge).getD e (FILL, FILL) = (Int.ofNat fa, FILL)) ∨
    (∃ fa fb, fa ≤ fb ∧ feed (efEvents FE N) e = [Int.ofNat fa, Int.ofNat fb] ∧
      (edgeFace FE N nEdge).getD e (FILL, FILL) = (Int.ofNat fa, Int.ofNat fb)) := by
  rw [edgeFace_get FE N nEdge e he]
  have hmem := mem_feed_ef h0 e
  have hasc : (feed (efEvents FE N) e).Pairwise (· ≤ ·) :=
    feed_efEvents FE N e ▸ fedFaces_ascending _ _
  unfold incidence at hinc
  generalize feed (efEvents FE N) e = l at hinc hmem hasc
  match l, hinc with
  | [a], _ =>
    obtain ⟨fa, _, rfl, _⟩ := (hmem a).mp List.mem_cons_self
    exact Or.inl ⟨fa, rfl, foldl_slotUpd_cons _ (ofNat_ne_fill fa) []⟩
  | [a, b], _ =>
    obtain ⟨fa, _, rfl, _⟩ := (hmem a).mp List.mem_cons_self
    obtain ⟨fb, _, rfl, _⟩ := (hmem b).mp (List.mem_cons_of_mem _ List.mem_cons_self)
    exact Or.inr ⟨fa, fb, Int.ofNat_le.mp (List.rel_of_pairwise_cons hasc List.mem_cons_self), rfl,
      foldl_slotUpd_cons _ (ofNat_ne_fill fa) [_]⟩
  | [], h => simp at h
  | _ :: _ :: _ :: _, h3 => simp at h3

/-! ### `padTo`, `maxLen`, and the rows of `nodeFace` / `faceFace` -/

theorem mem_padTo_ofNat (w : Nat) (l : List Int) (k : Nat) :
    Int.ofNat k ∈ padTo w l ↔ Int.ofNat k ∈ l := by
  unfold padTo
  rw [List.mem_append, List.mem_replicate]
  exact ⟨fun h => h.elim id (fun h => absurd h.2 (ofNat_ne_fill k)), Or.inl⟩

theorem mem_padTo (w : Nat) (l : List Int) (x : Int) : x ∈ padTo w l → x = FILL ∨ x ∈ l := by
  unfold padTo
  rw [List.mem_append, List.mem_replicate]
  exact fun h => h.elim Or.inr (fun h => Or.inl h.2)

theorem count_padTo_ofNat (w : Nat) (l : List Int) (k : Nat) :
    (padTo w l).count (Int.ofNat k) = l.count (Int.ofNat k) := by
  unfold padTo
  rw [List.count_append, List.count_replicate, if_neg, Nat.add_zero]
  simpa using (ofNat_ne_fill k).symm

theorem length_padTo {w : Nat} {l : List Int} (h : l.length ≤ w) : (padTo w l).length = w := by
  unfold padTo; rw [List.length_append, List.length_replicate]; omega

theorem foldl_maxLen (L : List (List Int)) (m : Nat) :
    m ≤ L.foldl (fun m l => max m l.length) m ∧
    (∀ l ∈ L, l.length ≤ L.foldl (fun m l => max m l.length) m) ∧
    (L.foldl (fun m l => max m l.length) m = m ∨
      ∃ l ∈ L, l.length = L.foldl (fun m l => max m l.length) m) := by
  induction L generalizing m with
  | nil => exact ⟨Nat.le_refl _, fun _ hl => (nomatch hl), Or.inl rfl⟩
  | cons a L ih =>
    obtain ⟨h1, h2, h3⟩ := ih (max m a.length)
    refine ⟨Nat.le_trans (Nat.le_max_left _ _) h1, fun l hl => ?_, ?_⟩
    · rcases List.mem_cons.mp hl with rfl | hl
      · exact Nat.le_trans (Nat.le_max_right _ _) h1
      · exact h2 l hl
    · rcases h3 with h | ⟨l, hl, h⟩
      · rcases Nat.le_total a.length m with hc | hc
        · exact Or.inl (h.trans (Nat.max_eq_left hc))
        · exact Or.inr ⟨a, List.mem_cons_self, (h.trans (Nat.max_eq_right hc)).symm⟩
      · exact Or.inr ⟨l, List.mem_cons_of_mem _ hl, h⟩

theorem le_maxLen {L : List (List Int)} {l : List Int} (h : l ∈ L) : l.length ≤ maxLen L :=
  (foldl_maxLen L 0).2.1 l h

theorem maxLen_attained (L : List (List Int)) :
    maxLen L = 0 ∨ ∃ l ∈ L, l.length = maxLen L :=
  (foldl_maxLen L 0).2.2

theorem nodeFace_row (n : Nat) (t : Table) (v : Nat) (hv : v < n) :
    rowAt (nodeFace n t) v = padTo (maxLen (nodeFaceLists n t)) (feed (nfEvents t) v) :=
  rowAt_map_appendFold _ n _ hv

theorem faceFace_row (nFace w : Nat) (EF : List (Int × Int)) (f : Nat) (hf : f < nFace) :
    rowAt (faceFace nFace w EF) f = padTo w (feed (ffEvents EF) f) :=
  rowAt_map_appendFold _ nFace _ hf

/-! ### the events of the face→face loop -/

theorem ffEventsOf_fill (a : Int) : ffEventsOf (a, FILL) = [] := by
  simp [ffEventsOf]

theorem ffEventsOf_ofNat (fa fb : Nat) :
    ffEventsOf (Int.ofNat fa, Int.ofNat fb) = [(fa, Int.ofNat fb), (fb, Int.ofNat fa)] := by
  have ha : (fa : Int) ≠ FILL := ofNat_ne_fill fa
  have hb : (fb : Int) ≠ FILL := ofNat_ne_fill fb
  simp [ffEventsOf, ha, hb]

theorem ffEvents_eq (EF : List (Int × Int)) :
    ffEvents EF = (List.range EF.length).flatMap (fun e => ffEventsOf (EF.getD e (FILL, FILL))) := by
  conv => lhs; rw [ffEvents, eq_map_getD_range EF (FILL, FILL), List.flatMap_map]

end UxVerif.Incidence
