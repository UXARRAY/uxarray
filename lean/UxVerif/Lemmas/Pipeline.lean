/-
  C02 → C03: what the edge→face loop of `_build_edge_face_connectivity` reads in edge tables meeting
  `Edges.Spec`, and `pre_of_spec`: such tables meet `Incidence.Pre`, except for the manifold clause,
  which is a hypothesis about the mesh, not about the code.  Core Lean only.
-/
import UxVerif.Lemmas.Rows
import UxVerif.Lemmas.Incidence

namespace UxVerif.Pipeline
open UxVerif UxVerif.Edges UxVerif.Incidence

theorem real_of_std {n w : Nat} {r : List Int} (h : StdRow n w r) : real r = faceOf r := by
  have e := stdRow_eq h
  have hne := faceOf_ne_fill r
  generalize hk : faceOf r = k at e hne
  unfold real
  rw [e, List.filter_append]
  have h1 : k.filter (fun x => x != FILL) = k := by
    rw [List.filter_eq_self]; intro x hx; simpa using hne x hx
  have h2 : (List.replicate (w - k.length) FILL).filter (fun x => x != FILL) = [] := by
    rw [List.filter_eq_nil_iff]; intro x hx
    have := List.eq_of_mem_replicate hx
    simp [this]
  rw [h1, h2, List.append_nil]

theorem faceEdgesOf_of_spec {t : Table} {w : Nat} {o : Edges.Out}
    (hs : Edges.Spec t w o) {f : Nat} (hf : f < t.length) :
    faceEdgesOf o.faceEdges o.nPerFace f
      = (rowAt o.faceEdges f).take (faceOf (rowAt t f)).length := by
  have hN : o.nPerFace = _ := hs.nPerFace
  rw [faceEdgesOf, hN, List.getD_eq_getElem?_getD, List.getElem?_map,
    List.getElem?_eq_getElem hf, rowAt_getElem t f hf]
  rfl

theorem slot_of_spec {n w : Nat} {t : Table} (h : StdForm n w t) {o : Edges.Out}
    (hs : Edges.Spec t w o) {f : Nat} (hf : f < t.length)
    {j : Nat} (hj : j < (faceOf (rowAt t f)).length) :
    entry (rowAt o.faceEdges f) j ∈ faceEdgesOf o.faceEdges o.nPerFace f ∧
    ∃ e, getI? o.edges (entry (rowAt o.faceEdges f) j) = some e ∧
      sortPair e = (rowSegs (rowAt t f))[j]'(by rw [length_rowSegs]; exact hj) := by
  have hrow := hs.feRow hf
  have hjw : j < w := Nat.lt_of_lt_of_le hj (faceOf_le_width (h _ (rowAt_mem hf)))
  have hjl : j < (rowAt o.faceEdges f).length := hrow.1 ▸ hjw
  refine ⟨?_, hrow.slot hj hjw⟩
  rw [faceEdgesOf_of_spec hs hf, entry_eq_getElem _ j hjl]
  exact List.mem_take_iff_getElem.mpr ⟨j, Nat.lt_min.mpr ⟨hj, hjl⟩, rfl⟩

theorem mem_faceEdgesOf_of_spec {t : Table} {w : Nat} {o : Edges.Out}
    (hs : Edges.Spec t w o) {f : Nat}
    (hf : f < t.length) {x : Int} (hx : x ∈ faceEdgesOf o.faceEdges o.nPerFace f) :
    ∃ j, j < (faceOf (rowAt t f)).length ∧ x = entry (rowAt o.faceEdges f) j := by
  rw [faceEdgesOf_of_spec hs hf] at hx
  obtain ⟨j, hj, rfl⟩ := List.mem_take_iff_getElem.mp hx
  exact ⟨j, Nat.lt_of_lt_of_le hj (Nat.min_le_left _ _),
    (entry_eq_getElem _ j (Nat.lt_of_lt_of_le hj (Nat.min_le_right _ _))).symm⟩

theorem faceEdges_valid_of_spec {n w : Nat} {t : Table} (h : StdForm n w t) (o : Edges.Out)
    (hs : Edges.Spec t w o) (f : Nat) (hf : f < t.length) :
    ∀ x ∈ faceEdgesOf o.faceEdges o.nPerFace f, 0 ≤ x ∧ x < (o.edges.length : Int) := by
  intro x hx
  obtain ⟨j, hj, rfl⟩ := mem_faceEdgesOf_of_spec hs hf hx
  obtain ⟨e, he, _⟩ := (slot_of_spec h hs hf hj).2
  obtain ⟨h0, hlt, _⟩ := getI?_eq_some.mp he
  exact ⟨h0, (Int.toNat_lt h0).mp hlt⟩

/-- the edge is a boundary segment of a face, whose slot points at a row with the same unordered
    pair, and there is only one -/
theorem edge_listed_of_spec {n w : Nat} {t : Table} (h : StdForm n w t) (o : Edges.Out)
    (hs : Edges.Spec t w o) (e : Nat)
    (he : e < o.edges.length) :
    ∃ f, f < t.length ∧ Int.ofNat e ∈ faceEdgesOf o.faceEdges o.nPerFace f := by
  obtain ⟨_, _, r, hr, hseg⟩ := hs.sound _ (List.getElem_mem he)
  obtain ⟨f, hf, rfl⟩ := List.getElem_of_mem hr
  rw [← rowAt_getElem t f hf] at hseg
  obtain ⟨j, hj, hjs⟩ := List.getElem_of_mem hseg
  obtain ⟨hmem, e', he', hse⟩ := slot_of_spec h hs hf (length_rowSegs _ ▸ hj)
  have hx : entry (rowAt o.faceEdges f) j = Int.ofNat e :=
    edgesOnce_inj hs.once he' (by rw [getI?_ofNat, List.getElem?_eq_getElem he]) (hse.trans hjs)
  exact ⟨f, hf, hx ▸ hmem⟩

theorem edge_is_fed_of_spec {n w : Nat} {t : Table} (h : StdForm n w t) (o : Edges.Out)
    (hs : Edges.Spec t w o) (e : Nat) (he : e < o.edges.length) :
    feed (efEvents o.faceEdges o.nPerFace) e ≠ [] := by
  obtain ⟨f, hf, hm⟩ := edge_listed_of_spec h o hs e he
  have h0 : ∀ f, f < o.faceEdges.length → ∀ y ∈ faceEdgesOf o.faceEdges o.nPerFace f, 0 ≤ y :=
    fun f hf y hy => (faceEdges_valid_of_spec h o hs f (hs.feLen ▸ hf) y hy).1
  exact List.ne_nil_of_mem ((ofNat_mem_feed_ef h0 e (hs.feLen.symm ▸ hf)).mpr hm)

/-- the tables of ANY output meeting `Edges.Spec` on a standard-form face table meet
    `Incidence.Pre`, provided no edge bounds more than two face slots -/
theorem pre_of_spec {n w : Nat} {t : Table} (h : StdForm n w t) (o : Edges.Out)
    (hs : Edges.Spec t w o)
    (hman : ∀ e, e < o.edges.length → incidence o.faceEdges o.nPerFace e ≤ 2) :
    Pre n t o.faceEdges o.nPerFace o.edges.length := by
  have hlen := hs.feLen
  refine ⟨hlen, ?_, ?_, ?_⟩
  · intro f hf
    exact faceEdges_valid_of_spec h o hs f (hlen ▸ hf)
  · intro e he
    exact ⟨List.length_pos_iff.mpr (edge_is_fed_of_spec h o hs e he), hman e he⟩
  · intro f hf v hv
    have hstd := h _ (rowAt_mem hf)
    rw [real_of_std hstd] at hv
    exact hstd.corners v hv

end UxVerif.Pipeline
