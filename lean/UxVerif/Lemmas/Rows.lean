/-
  Basic facts about the tables of `Model/Basic.lean` (namespace `UxVerif`: `FILL`, `getD`, `rowAt`,
  `entry`, `getI?`, `rank`, `faceOf`, `sortPair`, `segs`) and of `Model/Edges.lean` (namespace
  `UxVerif.Edges`: standard-form rows, the pairs and segments of a row, `Spec` clause by clause, the
  rows of `face_edge_connectivity`).  Core Lean only.
-/
import UxVerif.Model.Edges

namespace UxVerif

/-! ## 1. `FILL`, `getD`, `rowAt`, `entry`, and the list facts they are proved from -/

theorem FILL_neg : FILL < 0 := by decide

theorem ne_FILL_of_nonneg {x : Int} (h : 0 ≤ x) : x ≠ FILL :=
  fun hx => Int.not_lt.mpr h (hx ▸ FILL_neg)

theorem ofNat_ne_fill (k : Nat) : Int.ofNat k ≠ FILL := ne_FILL_of_nonneg (Int.natCast_nonneg k)

theorem exists_ofNat_of_bounds {n : Nat} {x : Int} (h0 : 0 ≤ x) (h1 : x < n) :
    ∃ f, f < n ∧ x = Int.ofNat f :=
  ⟨x.toNat, (Int.toNat_lt h0).mpr h1, (Int.toNat_of_nonneg h0).symm⟩

theorem getD_lt {α} {l : List α} {i : Nat} (d : α) (h : i < l.length) : l.getD i d = l[i] := by
  rw [List.getD_eq_getElem?_getD, List.getElem?_eq_getElem h]; rfl

theorem eq_map_getD_range {α : Type} (l : List α) (d : α) :
    l = (List.range l.length).map (fun i => l.getD i d) := by
  apply List.ext_getElem
  · simp
  · intro i h1 h2
    simp [List.getD, List.getElem?_eq_getElem h1]

theorem map_range_eq_map {α β} {l : List α} (F : Nat → β) (G : α → β)
    (h : ∀ i (hi : i < l.length), F i = G l[i]) : (List.range l.length).map F = l.map G := by
  apply List.ext_getElem
  · simp
  · intro i h1 h2
    have hi : i < l.length := by simpa using h1
    simp [h i hi]

theorem entry_eq_getElem (r : List Int) (j : Nat) (hj : j < r.length) : entry r j = r[j] :=
  getD_lt FILL hj

theorem entry_mem {r : List Int} {j : Nat} (h : j < r.length) : entry r j ∈ r :=
  entry_eq_getElem r j h ▸ List.getElem_mem h

theorem rowAt_getElem (t : Table) (i : Nat) (hi : i < t.length) : rowAt t i = t[i] :=
  getD_lt [] hi

theorem rowAt_mem {t : Table} {i : Nat} (hi : i < t.length) : rowAt t i ∈ t :=
  rowAt_getElem t i hi ▸ List.getElem_mem hi

/-! ## 2. `getI?` and `rank` -/

theorem getI?_ofNat {α} (l : List α) (k : Nat) : getI? l (Int.ofNat k) = l[k]? :=
  if_neg (Int.not_lt.mpr (Int.natCast_nonneg k))

theorem getI?_eq_some {α} {l : List α} {i : Int} {a : α} :
    getI? l i = some a ↔ 0 ≤ i ∧ ∃ h : i.toNat < l.length, l[i.toNat] = a := by
  unfold getI?
  split
  · constructor
    · intro h; cases h
    · rintro ⟨h, _⟩; omega
  · rw [List.getElem?_eq_some_iff]
    exact ⟨fun h => ⟨by omega, h⟩, fun h => h.2⟩

theorem getI?_map {α β} (f : α → β) (l : List α) (i : Int) :
    getI? (l.map f) i = (getI? l i).map f := by
  unfold getI?
  split
  · rfl
  · exact List.getElem?_map

theorem getI?_inj {α} {l : List α} (hnd : l.Nodup) {x y : Int} {a : α}
    (hx : getI? l x = some a) (hy : getI? l y = some a) : x = y := by
  obtain ⟨hx0, lx, gx⟩ := getI?_eq_some.mp hx
  obtain ⟨hy0, ly, gy⟩ := getI?_eq_some.mp hy
  have := (List.getElem_inj (h₀ := lx) (h₁ := ly) hnd).mp (gx.trans gy.symm)
  rw [← Int.toNat_of_nonneg hx0, ← Int.toNat_of_nonneg hy0, this]

/-- `return_inverse` -/
theorem getI?_rank {α} [BEq α] [LawfulBEq α] (u : List α) (x : α) (hx : x ∈ u) :
    getI? u (rank u x) = some x := by
  have hi : u.idxOf x < u.length := List.idxOf_lt_length_iff.mpr hx
  exact (getI?_ofNat u _).trans
    ((List.getElem?_eq_getElem hi).trans (congrArg some (List.getElem_idxOf hi)))

theorem rank_inj {α} [BEq α] [LawfulBEq α] (u : List α) (x y : α) (hx : x ∈ u) (hy : y ∈ u)
    (h : rank u x = rank u y) : x = y :=
  Option.some.inj ((getI?_rank u x hx).symm.trans (h ▸ getI?_rank u y hy))

/-! ## 3. `faceOf`, `padRow` -/

theorem faceOf_ne_fill (r : List Int) : ∀ x ∈ faceOf r, x ≠ FILL := by
  unfold faceOf
  induction r with
  | nil => simp
  | cons a r ih =>
    intro x hx
    rw [List.takeWhile_cons] at hx
    split at hx
    · rename_i ha
      rcases List.mem_cons.mp hx with rfl | hx
      · simpa using ha
      · exact ih x hx
    · cases hx

theorem faceOf_length_le (r : List Int) : (faceOf r).length ≤ r.length :=
  (List.takeWhile_sublist _).length_le

theorem split_faceOf (r : List Int) : r = faceOf r ++ r.drop (faceOf r).length := by
  unfold faceOf
  induction r with
  | nil => simp
  | cons a r ih =>
    rw [List.takeWhile_cons]
    split
    · simp only [List.cons_append, List.length_cons, List.drop_succ_cons]
      rw [← ih]
    · simp

theorem faceOf_map {g : Int → Int} (hg : ∀ x, g x = FILL ↔ x = FILL) (r : List Int) :
    faceOf (r.map g) = (faceOf r).map g := by
  unfold faceOf
  rw [List.takeWhile_map]
  have : ((fun x => x != FILL) ∘ g) = (fun x => x != FILL) := by
    funext a
    exact Bool.eq_iff_iff.mpr (by rw [Function.comp, bne_iff_ne, bne_iff_ne, Ne, hg a])
  rw [this]

theorem faceOf_padRow (w : Nat) (f : List Nat) : faceOf (padRow w f) = f.map Int.ofNat := by
  unfold faceOf padRow
  rw [List.takeWhile_append_of_pos, List.takeWhile_replicate, if_neg, List.append_nil]
  · exact fun h => absurd h (by decide)
  · intro x hx
    obtain ⟨v, _, rfl⟩ := List.mem_map.mp hx
    exact bne_iff_ne.mpr (ofNat_ne_fill v)

/-! ## 4. `sortPair`, `segs` -/

theorem sortPair_idem (p : Int × Int) : sortPair (sortPair p) = sortPair p := by
  unfold sortPair
  split
  · simp [*]
  · simp only []
    split
    · rfl
    · exfalso; omega

theorem sortPair_cases (p : Int × Int) : sortPair p = p ∨ sortPair p = (p.2, p.1) := by
  unfold sortPair; split
  · exact Or.inl rfl
  · exact Or.inr rfl

theorem sortPair_swap (p : Int × Int) : sortPair (p.2, p.1) = sortPair p := by
  unfold sortPair
  rcases Int.lt_trichotomy p.1 p.2 with h | h | h
  · rw [if_neg (Int.not_le.mpr h), if_pos (Int.le_of_lt h)]
  · rw [if_pos (Int.le_of_eq h.symm), if_pos (Int.le_of_eq h)]
    exact Prod.ext h.symm h
  · rw [if_pos (Int.le_of_lt h), if_neg (Int.not_le.mpr h)]

theorem sortPair_eq {p q : Int × Int} (h : sortPair p = sortPair q) : p = q ∨ p = (q.2, q.1) := by
  rcases sortPair_cases p with hp | hp <;> rcases sortPair_cases q with hq | hq <;>
    rw [hp, hq] at h
  · exact Or.inl h
  · exact Or.inr h
  · exact Or.inr (Prod.ext (congrArg Prod.snd h) (congrArg Prod.fst h))
  · exact Or.inl (Prod.ext (congrArg Prod.snd h) (congrArg Prod.fst h))

theorem sortPair_comps (p : Int × Int) (S : Int → Prop) :
    S (sortPair p).1 ∧ S (sortPair p).2 ↔ S p.1 ∧ S p.2 := by
  rcases sortPair_cases p with hp | hp <;> rw [hp]
  exact And.comm

theorem segs_cons {α} (a : α) (f : List α) : segs (a :: f) = List.zip (a :: f) (f ++ [a]) := rfl

theorem length_segs {α} (f : List α) : (segs f).length = f.length := by
  cases f with
  | nil => rfl
  | cons a f => simp [segs_cons]

theorem mem_segs_comps {α} (f : List α) (q : α × α) (hq : q ∈ segs f) : q.1 ∈ f ∧ q.2 ∈ f := by
  cases f with
  | nil => cases hq
  | cons a f =>
    rw [segs_cons] at hq
    have := List.of_mem_zip hq
    refine ⟨this.1, ?_⟩
    rcases List.mem_append.mp this.2 with h2 | h2
    · exact List.mem_cons_of_mem _ h2
    · rw [List.mem_singleton.mp h2]; exact List.mem_cons_self

end UxVerif

namespace UxVerif.Edges
open UxVerif

/-! ## 5. `Model/Edges` -/

/-! ### standard-form rows -/

theorem StdRow.pos {n w : Nat} {r : List Int} (h : StdRow n w r) : 0 < (faceOf r).length := h.2.1

theorem StdRow.corners {n w : Nat} {r : List Int} (h : StdRow n w r) :
    ∀ x ∈ faceOf r, 0 ≤ x ∧ x < n := h.2.2.1

theorem faceOf_le_width {n w : Nat} {r : List Int} (h : StdRow n w r) : (faceOf r).length ≤ w :=
  h.1 ▸ faceOf_length_le r

theorem stdRow_eq {n w : Nat} {r : List Int} (h : StdRow n w r) :
    r = faceOf r ++ List.replicate (w - (faceOf r).length) FILL := by
  obtain ⟨hlen, _, _, hfill⟩ := h
  have h1 := split_faceOf r
  have h2 : r.drop (faceOf r).length = List.replicate (w - (faceOf r).length) FILL := by
    rw [List.eq_replicate_iff]
    refine ⟨by simp [hlen], hfill⟩
  rw [← h2]; exact h1

theorem stdRow_map {g : Int → Int} (hg : ∀ x, g x = FILL ↔ x = FILL) {n n' w : Nat} {r : List Int}
    (h : StdRow n w r) (hb : ∀ x ∈ faceOf r, 0 ≤ g x ∧ g x < n') : StdRow n' w (r.map g) := by
  obtain ⟨h1, h2, _, h4⟩ := h
  rw [StdRow, faceOf_map hg, List.length_map, List.length_map, ← List.map_drop]
  refine ⟨h1, h2, ?_, ?_⟩
  · intro x hx
    obtain ⟨y, hy, rfl⟩ := List.mem_map.mp hx
    exact hb y hy
  · intro x hx
    obtain ⟨y, hy, rfl⟩ := List.mem_map.mp hx
    exact (hg y).mpr (h4 y hy)

theorem stdRow_padRow (n w : Nat) (f : List Nat) (h0 : 0 < f.length) (hw : f.length ≤ w)
    (hn : ∀ v ∈ f, v < n) : StdRow n w (padRow w f) := by
  unfold StdRow
  rw [faceOf_padRow, List.length_map]
  refine ⟨?_, h0, ?_, ?_⟩
  · unfold padRow
    rw [List.length_append, List.length_map, List.length_replicate, Nat.add_sub_cancel' hw]
  · intro x hx
    obtain ⟨v, hv, rfl⟩ := List.mem_map.mp hx
    exact ⟨Int.natCast_nonneg v, Int.ofNat_lt.mpr (hn v hv)⟩
  · intro x hx
    unfold padRow at hx
    rw [List.drop_left' (List.length_map _)] at hx
    exact (List.mem_replicate.mp hx).2

theorem stdForm_pad_of_wf {n w : Nat} (m : Mesh)
    (hm : ∀ f ∈ m, 0 < f.length ∧ f.length ≤ w ∧ ∀ x ∈ f, x < n) : StdForm n w (pad w m) := by
  intro r hr
  rcases List.mem_map.mp hr with ⟨f, hf, rfl⟩
  obtain ⟨h0, hw, hn⟩ := hm f hf
  exact stdRow_padRow n w f h0 hw hn

/-! ### `nNodesRow` on any row -/

theorem nNodesRow_map {g : Int → Int} (hg : ∀ x, g x = FILL ↔ x = FILL) (r : List Int) :
    nNodesRow (r.map g) = nNodesRow r := by
  unfold nNodesRow
  induction r with
  | nil => rfl
  | cons a r ih =>
    have : (g a == FILL) = (a == FILL) :=
      Bool.eq_iff_iff.mpr (by rw [beq_iff_eq, beq_iff_eq]; exact hg a)
    rw [List.map_cons, List.cons_append, List.cons_append, List.idxOf_cons, List.idxOf_cons, ih,
      this]

theorem nNodesPerFace_getD (t : Table) (i : Nat) :
    (nNodesPerFace t).getD i 0 = nNodesRow (rowAt t i) := by
  unfold nNodesPerFace rowAt
  rw [List.getD_eq_getElem?_getD, List.getD_eq_getElem?_getD, List.getElem?_map]
  cases t[i]? <;> rfl

theorem idxOf_fill_append (f rest : List Int) (hf : ∀ x ∈ f, x ≠ FILL) :
    (f ++ FILL :: rest).idxOf FILL = f.length := by
  induction f with
  | nil => simp
  | cons a f ih =>
    have ha : a ≠ FILL := hf a (by simp)
    have : (a == FILL) = false := by simpa using ha
    simp only [List.cons_append, List.idxOf_cons, this, cond_false, List.length_cons]
    rw [ih (fun x hx => hf x (by simp [hx]))]

theorem append_fill_eq (r : List Int) :
    ∃ tl, r ++ [FILL] = faceOf r ++ FILL :: tl := by
  induction r with
  | nil => exact ⟨[], rfl⟩
  | cons a r ih =>
    by_cases ha : a = FILL
    · subst ha
      exact ⟨r ++ [FILL], by simp [faceOf]⟩
    · obtain ⟨tl, htl⟩ := ih
      refine ⟨tl, ?_⟩
      have : faceOf (a :: r) = a :: faceOf r := by
        unfold faceOf
        rw [List.takeWhile_cons]
        simp [ha]
      rw [this, List.cons_append, htl, List.cons_append]

/-- `_build_n_nodes_per_face`, on any row -/
theorem nNodesRow_any (r : List Int) : nNodesRow r = (faceOf r).length := by
  unfold nNodesRow
  obtain ⟨tl, htl⟩ := append_fill_eq r
  rw [htl, idxOf_fill_append _ _ (faceOf_ne_fill r)]

theorem nNodesRow_std {n w : Nat} {r : List Int} (_ : StdRow n w r) :
    nNodesRow r = (faceOf r).length := nNodesRow_any r

/-! ### the pairs and boundary segments of a row -/

/-- boundary segments first, then the pairs made of the closing corner and `tl` -/
theorem rowPairs_eq {r tl : List Int} (h : r ++ [FILL] = faceOf r ++ FILL :: tl) :
    rowPairs r = rowSegs r ++ (List.zip (r.headD FILL :: tl) tl).map sortPair := by
  unfold rowPairs rowSegs closeRow
  simp only []
  rw [h, idxOf_fill_append _ _ (faceOf_ne_fill r),
    List.set_append_right _ _ (Nat.le_refl _)]
  simp only [Nat.sub_self, List.set_cons_zero]
  cases hf : faceOf r with
  | nil => simp [segs]
  | cons a f =>
    have hhead : r.headD FILL = a := by
      cases r with
      | nil => simp [faceOf] at hf
      | cons b r =>
        unfold faceOf at hf
        rw [List.takeWhile_cons] at hf
        split at hf
        · simp at hf; simp [hf.1]
        · cases hf
    rw [hhead]
    simp only [List.cons_append, List.tail_cons, segs_cons]
    rw [← List.map_append]
    congr 1
    have e1 : f ++ a :: tl = (f ++ [a]) ++ tl := by simp
    have e2 : a :: (f ++ [a] ++ tl) = (a :: f) ++ (a :: tl) := by simp
    rw [e1, e2, List.zip_append (by simp)]

theorem rowPairs_any (r : List Int) : ∃ tl, rowPairs r = rowSegs r ++ tl :=
  let ⟨_, h⟩ := append_fill_eq r
  ⟨_, rowPairs_eq h⟩

theorem zip_tail_fill (a : Int) (m : Nat) :
    ∀ p ∈ (List.zip (a :: List.replicate m FILL) (List.replicate m FILL)).map sortPair,
      hasFill p = true := by
  intro p hp
  rcases List.mem_map.mp hp with ⟨q, hq, rfl⟩
  have h2 : q.2 = FILL := by
    have := (List.of_mem_zip hq).2
    exact (List.mem_replicate.mp this).2
  unfold sortPair hasFill
  split <;> simp [h2]

theorem rowPairs_std {n w : Nat} {r : List Int} (h : StdRow n w r) :
    ∃ tl, rowPairs r = rowSegs r ++ tl ∧ (∀ p ∈ tl, hasFill p = true) ∧
      tl.length = w - (faceOf r).length := by
  have e := stdRow_eq h
  generalize w - (faceOf r).length = m at e ⊢
  have hc : r ++ [FILL] = faceOf r ++ FILL :: List.replicate m FILL := by
    conv => lhs; rw [e]
    rw [List.append_assoc, ← List.replicate_succ', List.replicate_succ]
  exact ⟨_, rowPairs_eq hc, zip_tail_fill _ m, by simp⟩

theorem closeRow_length (r : List Int) : (closeRow r).length = r.length + 1 := by
  rw [closeRow, List.length_set, List.length_append]; rfl

theorem rowPairs_length (r : List Int) : (rowPairs r).length = r.length := by
  show ((List.zip (closeRow r) (closeRow r).tail).map sortPair).length = _
  rw [List.length_map, List.length_zip, List.length_tail, closeRow_length, Nat.add_sub_cancel,
    Nat.min_eq_right (Nat.le_succ _)]

theorem rowSegs_sorted (r : List Int) : ∀ p ∈ rowSegs r, sortPair p = p := by
  intro p hp
  rcases List.mem_map.mp hp with ⟨q, _, rfl⟩
  exact sortPair_idem q

theorem mem_rowSegs_comps (r : List Int) (p : Int × Int) (hp : p ∈ rowSegs r) :
    p.1 ∈ faceOf r ∧ p.2 ∈ faceOf r := by
  obtain ⟨q, hq, rfl⟩ := List.mem_map.mp hp
  exact (sortPair_comps q (· ∈ faceOf r)).mpr (mem_segs_comps _ q hq)

theorem rowSegs_noFill (r : List Int) : ∀ p ∈ rowSegs r, hasFill p = false := by
  intro p hp
  obtain ⟨h1, h2⟩ := mem_rowSegs_comps r p hp
  have h1 := faceOf_ne_fill r _ h1
  have h2 := faceOf_ne_fill r _ h2
  unfold hasFill
  simp [h1, h2]

theorem length_rowSegs (r : List Int) : (rowSegs r).length = (faceOf r).length := by
  unfold rowSegs; simp [length_segs]

/-! ### `Spec`, clause by clause -/

section Spec
variable {t : Table} {w : Nat} {o : Out}

theorem Spec.sound (h : Spec t w o) : EdgesSound t o.edges := h.1
theorem Spec.complete (h : Spec t w o) : EdgesComplete t o.edges := h.2.1
theorem Spec.once (h : Spec t w o) : EdgesOnce o.edges := h.2.2.1
theorem Spec.faceEdgesOK (h : Spec t w o) : FaceEdgesOK t w o.edges o.faceEdges := h.2.2.2.1
theorem Spec.feLen (h : Spec t w o) : o.faceEdges.length = t.length := h.2.2.2.1.1
theorem Spec.feRow (h : Spec t w o) {f : Nat} (hf : f < t.length) :
    FaceEdgeRow o.edges w (rowAt t f) (rowAt o.faceEdges f) := h.2.2.2.1.2 f hf
theorem Spec.nPerFace (h : Spec t w o) : NPerFaceOK t o.nPerFace := h.2.2.2.2

end Spec

/-! ### rows of `face_edge_connectivity` -/

theorem edgesOnce_inj {E : List (Int × Int)} (hE : EdgesOnce E) {a b : Int}
    {p q : Int × Int} (ha : getI? E a = some p) (hb : getI? E b = some q)
    (h : sortPair p = sortPair q) : a = b :=
  getI?_inj hE (a := sortPair p) (by rw [getI?_map, ha]; rfl) (by rw [getI?_map, hb, h]; rfl)

theorem FaceEdgeRow.slot {E : List (Int × Int)} {w : Nat} {r fe : List Int}
    (h : FaceEdgeRow E w r fe) {j : Nat} (hj : j < (faceOf r).length)
    (hjw : j < w) :
    ∃ e, getI? E (entry fe j) = some e ∧
      sortPair e = (rowSegs r)[j]'(by rw [length_rowSegs]; exact hj) := by
  have s := h.2 j hjw
  rw [if_pos hj] at s
  obtain ⟨a, ha, e, he, hse⟩ := s
  rw [List.getElem?_eq_getElem (by rw [length_rowSegs]; exact hj)] at ha
  exact ⟨e, he, hse.trans (Option.some.inj ha).symm⟩

theorem FaceEdgeRow.fill {E : List (Int × Int)} {w : Nat} {r fe : List Int}
    (h : FaceEdgeRow E w r fe) {j : Nat} (hj : (faceOf r).length ≤ j)
    (hjw : j < w) : entry fe j = FILL := by
  have s := h.2 j hjw
  rwa [if_neg (by omega)] at s

theorem FaceEdgeRow.unique {E : List (Int × Int)} {w : Nat} {r fe : List Int}
    (honce : EdgesOnce E) {fe' : List Int} (h : FaceEdgeRow E w r fe)
    (h' : FaceEdgeRow E w r fe') : fe = fe' := by
  apply List.ext_getElem (h.1.trans h'.1.symm)
  intro j hj hj'
  have hjw : j < w := h.1 ▸ hj
  rw [← entry_eq_getElem fe j hj, ← entry_eq_getElem fe' j hj']
  by_cases hjk : j < (faceOf r).length
  · obtain ⟨e, he, hse⟩ := h.slot hjk hjw
    obtain ⟨e', he', hse'⟩ := h'.slot hjk hjw
    exact edgesOnce_inj honce he he' (hse.trans hse'.symm)
  · rw [h.fill (by omega) hjw, h'.fill (by omega) hjw]

theorem FaceEdgesOK.unique {E : List (Int × Int)} {w : Nat} {t : Table}
    (honce : EdgesOnce E) {FE FE' : Table}
    (h : FaceEdgesOK t w E FE) (h' : FaceEdgesOK t w E FE') : FE = FE' := by
  apply List.ext_getElem (h.1.trans h'.1.symm)
  intro f hf hf'
  have hft : f < t.length := h.1 ▸ hf
  rw [← rowAt_getElem FE f hf, ← rowAt_getElem FE' f hf']
  exact (h.2 f hft).unique honce (h'.2 f hft)

/-- enough: every boundary segment goes to a row of `E` joining its ends, every fill pair to
    `FILL` -/
theorem FaceEdgeRow.of_rowPairs_map {E : List (Int × Int)} {n w : Nat} {r : List Int}
    (h : StdRow n w r) (g : Int × Int → Int)
    (hseg : ∀ s ∈ rowSegs r, ∃ e, getI? E (g s) = some e ∧ sortPair e = s)
    (hfill : ∀ p ∈ rowPairs r, hasFill p = true → g p = FILL) :
    FaceEdgeRow E w r ((rowPairs r).map g) := by
  obtain ⟨tl, htl, htlfill, hlen⟩ := rowPairs_std h
  have hk := faceOf_le_width h
  have hplen : (rowPairs r).length = w := by
    rw [htl, List.length_append, length_rowSegs, hlen]; omega
  refine ⟨by rw [List.length_map, hplen], fun j hj => ?_⟩
  have hjp : j < (rowPairs r).length := hplen ▸ hj
  rw [entry_eq_getElem _ j (by rw [List.length_map]; exact hjp), List.getElem_map]
  split
  · rename_i hjk
    have hjs : j < (rowSegs r).length := by rw [length_rowSegs]; exact hjk
    have hpj : (rowPairs r)[j] = (rowSegs r)[j] := by
      simp only [htl]; exact List.getElem_append_left hjs
    obtain ⟨e, he, hse⟩ := hseg _ (List.getElem_mem hjs)
    exact ⟨_, List.getElem?_eq_getElem hjs, e, hpj ▸ he, hse⟩
  · rename_i hjk
    have hjs : (rowSegs r).length ≤ j := by rw [length_rowSegs]; omega
    refine hfill _ (List.getElem_mem hjp) (htlfill _ ?_)
    simp only [htl]; rw [List.getElem_append_right hjs]; exact List.getElem_mem _

/-- the table form of the previous lemma -/
theorem FaceEdgesOK.of_rowPairs_map {E : List (Int × Int)} {n w : Nat} {t : Table}
    (h : StdForm n w t) (g : Int × Int → Int)
    (hseg : ∀ r ∈ t, ∀ s ∈ rowSegs r, ∃ e, getI? E (g s) = some e ∧ sortPair e = s)
    (hfill : ∀ r ∈ t, ∀ p ∈ rowPairs r, hasFill p = true → g p = FILL) :
    FaceEdgesOK t w E (t.map (fun r => (rowPairs r).map g)) := by
  refine ⟨List.length_map _, fun i hi => ?_⟩
  have hr : t[i] ∈ t := List.getElem_mem hi
  rw [rowAt_getElem t i hi, rowAt_getElem _ i (by rw [List.length_map]; exact hi), List.getElem_map]
  exact FaceEdgeRow.of_rowPairs_map (h _ hr) g (hseg _ hr) (hfill _ hr)

end UxVerif.Edges
