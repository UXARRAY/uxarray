/-
  Double counting: summing over a duplicate-free list `L` the occurrences in `S` gives at most
  `|S|`, and `|S|` when `L` covers `S` (the handshake lemma of C02); comparison lemmas for sums of
  naturals over lists.  Uses Mathlib: not linked into the drivers.
-/
import Mathlib.Algebra.BigOperators.Group.List.Lemmas
import Mathlib.Data.List.Perm.Subperm

namespace UxVerif

theorem sum_count_cons {α : Type} [BEq α] [LawfulBEq α] (L S : List α) (a : α) :
    (L.map (fun x => (a :: S).count x)).sum = (L.map (fun x => S.count x)).sum + L.count a := by
  have h1 : (L.map (fun x => (a :: S).count x))
      = L.map (fun x => S.count x + (if a == x then 1 else 0)) :=
    List.map_congr_left fun x _ => List.count_cons
  have h2 : (L.map (fun x => if a == x then 1 else 0)).sum = L.count a := by
    induction L with
    | nil => rfl
    | cons b L ihL =>
      simp only [List.map_cons, List.sum_cons, ihL, List.count_cons]
      have : (a == b) = (b == a) := BEq.comm
      rw [this]; omega
  rw [h1, List.sum_map_add, h2]

theorem sum_count_le {α : Type} [BEq α] [LawfulBEq α] (L S : List α) (hL : L.Nodup) :
    (L.map (fun x => S.count x)).sum ≤ S.length := by
  induction S with
  | nil => simp
  | cons a S ih =>
    rw [sum_count_cons, List.length_cons]
    exact Nat.add_le_add ih (List.nodup_iff_count.mp hL a)

theorem sum_count_cover {α : Type} [BEq α] [LawfulBEq α] (L S : List α) (hL : L.Nodup)
    (hcov : ∀ x ∈ S, x ∈ L) : (L.map (fun x => S.count x)).sum = S.length := by
  induction S with
  | nil => simp
  | cons a S ih =>
    rw [sum_count_cons, ih (fun x hx => hcov x (List.mem_cons_of_mem _ hx)),
      List.count_eq_one_of_mem hL (hcov a List.mem_cons_self), List.length_cons]

/-! ### sums of naturals over lists -/

theorem filter_length_sum {α : Type} (l : List α) (p : α → Bool) :
    (l.filter p).length = (l.map (fun a => if p a then 1 else 0)).sum := by
  induction l with
  | nil => rfl
  | cons a l ih =>
    rw [List.filter_cons]
    by_cases h : p a = true
    · simp [h, ih]; omega
    · simp [h, ih]

theorem sublist_sum_le {l₁ l₂ : List Nat} (h : l₁.Sublist l₂) : l₁.sum ≤ l₂.sum := by
  induction h with
  | slnil => simp
  | cons a _ ih => simp only [List.sum_cons]; omega
  | cons_cons a _ ih => simp only [List.sum_cons]; omega

theorem sum_map_le_range {idx : List Nat} {n : Nat} (g : Nat → Nat) (hnd : idx.Nodup)
    (hlt : ∀ f ∈ idx, f < n) : (idx.map g).sum ≤ ((List.range n).map g).sum := by
  obtain ⟨l, hp, hs⟩ := List.subperm_of_subset hnd (fun f hf => List.mem_range.mpr (hlt f hf))
  rw [← (hp.map g).sum_nat]
  exact sublist_sum_le (hs.map g)

theorem sum_map_le_sum_map {l : List Nat} (g g' : Nat → Nat) (h : ∀ f ∈ l, g f ≤ g' f) :
    (l.map g).sum ≤ (l.map g').sum := by
  induction l with
  | nil => simp
  | cons a l ih =>
    simp only [List.map_cons, List.sum_cons]
    have h1 := h a List.mem_cons_self
    have h2 := ih (fun f hf => h f (List.mem_cons_of_mem _ hf))
    omega

theorem le_sum_map_of_mem {l : List Nat} (g : Nat → Nat) {f : Nat} (h : f ∈ l) :
    g f ≤ (l.map g).sum := by
  induction l with
  | nil => cases h
  | cons a l ih =>
    simp only [List.map_cons, List.sum_cons]
    rcases List.mem_cons.mp h with rfl | h
    · omega
    · have := ih h; omega

theorem sum_countP_le_length (r : List Int) (k : Nat) :
    ((List.range k).map (fun e => r.countP (fun y => y.toNat == e))).sum ≤ r.length := by
  have h : ∀ e, r.countP (fun y => y.toNat == e) = (r.map Int.toNat).count e := fun e => by
    rw [List.count_eq_countP, List.countP_map]; rfl
  simp only [h]
  exact Nat.le_trans (sum_count_le (List.range k) (r.map Int.toNat) List.nodup_range)
    (Nat.le_of_eq (List.length_map _))

end UxVerif
