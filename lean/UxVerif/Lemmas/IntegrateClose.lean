/-
  The tolerance clause `Close` / `CloseE` of the C06 specification: the exact sum passes it.
  (A module of its own: with the order on ℚ imported, every lemma of `Lemmas/IntegrateRound.lean`,
  which is about an arbitrary ordered ring, elaborates more slowly.)
-/
import Mathlib.Algebra.Order.Field.Rat
import Mathlib.Tactic.NormNum
import UxVerif.Lemmas.Integrate

namespace UxVerif.Integrate

theorem absQ_eq_abs (x : Rat) : absQ x = |x| := by
  unfold absQ
  split
  exacts [(abs_of_neg ‹_›).symm, (abs_of_nonneg (not_lt.mp ‹_›)).symm]

theorem absQ_nonneg (x : Rat) : 0 ≤ absQ x := by
  rw [absQ_eq_abs]
  exact abs_nonneg x

theorem sumAbs_nonneg (a r : List Rat) : 0 ≤ sumAbs a r := by
  induction a generalizing r with
  | nil => exact le_rfl
  | cons x a ih =>
    cases r with
    | nil => exact le_rfl
    | cons y r => exact add_nonneg (absQ_nonneg _) (ih r)

theorem sumAbs_eq_sum (a r : List Rat) :
    sumAbs a r = sumL ((a.zip r).map (fun p => |p.1 * p.2|)) := by
  induction a generalizing r with
  | nil => simp [sumAbs, sumL]
  | cons x a ih =>
    cases r with
    | nil => simp [sumAbs, sumL]
    | cons y r => simp only [sumAbs, List.zip_cons_cons, List.map_cons, sumL, ih r, absQ_eq_abs]

theorem close_exact (areas row : List Rat) : Close areas row (dot areas row) := by
  unfold Close
  rw [sub_self, absQ_eq_abs, abs_zero]
  exact mul_nonneg (mul_nonneg (Nat.cast_nonneg _) (by unfold ulp; norm_num))
    (sumAbs_nonneg areas row)

theorem closeE_self (areas : List Rat) (row : List ExtVal) :
    CloseE areas row (dot (areas.map ExtVal.fin) row) := by
  unfold CloseE
  cases hd : dot (areas.map ExtVal.fin) row with
  | fin v =>
    simp only
    rw [← dot_ext_fin_inv areas row v hd]
    exact close_exact _ _
  | _ => trivial

end UxVerif.Integrate
