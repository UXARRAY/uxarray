/-
  C02, simple faces: a face whose corners are pairwise distinct and which has at least three of
  them has pairwise distinct boundary segments (as unordered pairs).  Consequence, for ANY edge
  tables meeting `Edges.Spec`: a face lists each of its edges once.  Core Lean only.
-/
import UxVerif.Lemmas.Rows

namespace UxVerif.Edges
open UxVerif

/-- pairwise distinct corners, at least three of them -/
def SimpleRow (r : List Int) : Prop := (faceOf r).Nodup ∧ 3 ≤ (faceOf r).length
def SimpleFaces (t : Table) : Prop := ∀ r ∈ t, SimpleRow r

instance (r) : Decidable (SimpleRow r) := by unfold SimpleRow; infer_instance
instance (t) : Decidable (SimpleFaces t) := by unfold SimpleFaces; infer_instance

/-! ### segments of a corner list by position -/

theorem getElem_segs {α} (f : List α) (i : Nat) (hi : i < (segs f).length) :
    (segs f)[i] = (f[i]'(by rw [length_segs] at hi; exact hi),
      if h : i + 1 < f.length then f[i + 1] else f[0]'(by rw [length_segs] at hi; omega)) := by
  cases f with
  | nil => simp [segs] at hi
  | cons a f =>
    simp only [segs_cons, List.getElem_zip]
    congr 1
    by_cases h : i + 1 < (a :: f).length
    · rw [dif_pos h]
      have h' : i < f.length := by simpa using h
      rw [List.getElem_append_left h']
      simp
    · rw [dif_neg h]
      have hi' : i < (a :: f).length := by rw [length_segs] at hi; exact hi
      have h' : f.length ≤ i := by simp at h; omega
      rw [List.getElem_append_right h']
      simp

/-- **distinct corners, at least three ⇒ distinct boundary segments** (as unordered pairs) -/
theorem segs_sorted_nodup (f : List Int) (hnd : f.Nodup) (h3 : 3 ≤ f.length) :
    ((segs f).map sortPair).Nodup := by
  unfold List.Nodup
  rw [List.pairwise_iff_getElem]
  intro i j hi hj hij heq
  simp only [List.length_map, length_segs] at hi hj
  simp only [List.getElem_map] at heq
  rw [getElem_segs f i (by rw [length_segs]; exact hi),
      getElem_segs f j (by rw [length_segs]; exact hj)] at heq
  have inj := fun (a b : Nat) (ha : a < f.length) (hb : b < f.length) =>
    (List.getElem_inj (i := a) (j := b) (h₀ := ha) (h₁ := hb) hnd).mp
  rcases sortPair_eq heq with h | h
  · have := inj i j hi hj (congrArg Prod.fst h)
    omega
  · have h1 := congrArg Prod.fst h
    have h2 := congrArg Prod.snd h
    simp only at h1 h2
    -- next(i) = f[j] forces j = i + 1
    have hi1 : i + 1 < f.length := by omega
    rw [dif_pos hi1] at h2
    have hj' := inj (i + 1) j hi1 hj h2
    by_cases hj1 : j + 1 < f.length
    · rw [dif_pos hj1] at h1
      have := inj i (j + 1) hi hj1 h1
      omega
    · rw [dif_neg hj1] at h1
      have := inj i 0 hi (by omega) h1
      omega

theorem rowSegs_nodup_of_simple {r : List Int} (h : SimpleRow r) : (rowSegs r).Nodup :=
  segs_sorted_nodup (faceOf r) h.1 h.2

/-- the real entries of the face-edge row of a simple face are pairwise distinct: two slots
    holding the same number would point at the same row of `E`, hence bound the same segment -/
theorem faceEdgeRow_nodup {E : List (Int × Int)} {w : Nat} {r fe : List Int}
    (hk : (faceOf r).length ≤ w) (hrow : FaceEdgeRow E w r fe) (hs : SimpleRow r) :
    (fe.take (faceOf r).length).Nodup := by
  unfold List.Nodup
  rw [List.pairwise_iff_getElem]
  intro i j hi hj hij heq
  rw [List.getElem_take, List.getElem_take] at heq
  rw [List.length_take] at hi hj
  have hik : i < (faceOf r).length := Nat.lt_of_lt_of_le hi (Nat.min_le_left _ _)
  have hjk : j < (faceOf r).length := Nat.lt_of_lt_of_le hj (Nat.min_le_left _ _)
  obtain ⟨e, he, hse⟩ := hrow.slot hik (Nat.lt_of_lt_of_le hik hk)
  obtain ⟨e', he', hse'⟩ := hrow.slot hjk (Nat.lt_of_lt_of_le hjk hk)
  rw [entry_eq_getElem fe i (Nat.lt_of_lt_of_le hi (Nat.min_le_right _ _)), heq,
    ← entry_eq_getElem fe j (Nat.lt_of_lt_of_le hj (Nat.min_le_right _ _)), he'] at he
  rw [← Option.some.inj he, hse'] at hse
  exact Nat.ne_of_lt hij ((List.getElem_inj (rowSegs_nodup_of_simple hs)).mp hse).symm

end UxVerif.Edges
