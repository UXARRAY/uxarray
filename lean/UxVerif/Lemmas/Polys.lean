/-
  Facts about the model `UxVerif.Model.Polys` alone (C15): shells; the NumPy index algebra reduced to plain
  `filter`s (fancy indexing composes: `gather_gather`); frames, columns and the cache cores.  Core Lean only.
-/
import UxVerif.Model.Polys
import UxVerif.Lemmas.ListBasics

namespace UxVerif.Polys

/-! ## closed padded shells -/

theorem adj_cons_cons {α} (a b : α) (l : List α) : adj (a :: b :: l) = (a, b) :: adj (b :: l) := by
  simp [adj]

/-- pairs of `l ++ b :: t` = cyclic-style pairs of `l` closed by `b`, then the pairs of `b :: t` -/
theorem adj_append_cons {α} (a : α) (l : List α) (b : α) (t : List α) :
    adj ((a :: l) ++ b :: t) = List.zip (a :: l) (l ++ [b]) ++ adj (b :: t) := by
  induction l generalizing a with
  | nil => simp [adj]
  | cons x l ih =>
    have := ih x
    simp only [List.cons_append] at this ⊢
    rw [adj_cons_cons, this]
    simp

theorem adj_replicate {α} (a : α) (m : Nat) :
    ∀ p ∈ adj (a :: List.replicate m a), p = (a, a) := by
  induction m with
  | zero => simp [adj]
  | succ m ih =>
    intro p hp
    rw [List.replicate_succ, adj_cons_cons] at hp
    rcases List.mem_cons.mp hp with h | h
    · exact h
    · exact ih p h

/-! ## index algebra -/

theorem mem_idxWhere (p : Nat → Bool) (n i : Nat) : i ∈ idxWhere p n ↔ i < n ∧ p i = true := by
  simp [idxWhere]

theorem contains_idxWhere (p : Nat → Bool) (n i : Nat) (hi : i < n) :
    (idxWhere p n).contains i = p i := by
  rw [Bool.eq_iff_iff, List.contains_iff_mem, mem_idxWhere]
  exact and_iff_right hi

/-- `np.delete(l, np.where(mask)[0])` is `l` indexed by the positions where the mask is false -/
theorem deleteIdx_idxWhere {β} (l : List β) (p : Nat → Bool) :
    deleteIdx l (idxWhere p l.length) = gather l ((List.range l.length).filter (fun i => !p i)) := by
  unfold deleteIdx gather
  congr 1
  apply List.filter_congr
  intro i hi
  rw [contains_idxWhere p _ i (List.mem_range.mp hi)]

theorem gather_range_left (n : Nat) (l : List Nat) (h : ∀ i ∈ l, i < n) : gather (List.range n) l = l :=
  (filterMap_congr fun i hi => List.getElem?_range (h i hi)).trans List.filterMap_some

theorem gather_range_length {β} (l : List β) : gather l (List.range l.length) = l := by
  unfold gather
  induction l with
  | nil => rfl
  | cons a l ih =>
    rw [List.length_cons, List.range_succ_eq_map, List.filterMap_cons]
    simp only [List.getElem?_cons_zero, List.filterMap_map]
    congr 1

/-- the cons / append equations of the model's `posWhere` and `gather` -/
theorem posWhere_cons {β} (p : β → Bool) (a : β) (l : List β) :
    posWhere p (a :: l) = (if p a then [0] else []) ++ (posWhere p l).map (· + 1) := by
  unfold posWhere
  rw [List.length_cons, List.range_succ_eq_map, List.filter_cons, List.filter_map]
  show (if p a = true then 0 :: _ else _) = (if p a = true then [0] else []) ++ _
  cases p a <;> rfl

theorem gather_append {β} (l : List β) (i j : List Nat) :
    gather l (i ++ j) = gather l i ++ gather l j := List.filterMap_append

theorem gather_cons_succ {β} (a : β) (l : List β) (idx : List Nat) :
    gather (a :: l) (idx.map (· + 1)) = gather l idx := List.filterMap_map

/-- `l[np.where(good(l))[0]]` is `filter good l` -/
theorem gather_posWhere {β} (p : β → Bool) (l : List β) :
    gather l (posWhere p l) = l.filter p := by
  conv => rhs; rw [← gather_range_length l]
  unfold gather posWhere
  rw [List.filterMap_filter, List.filter_filterMap]
  refine filterMap_congr fun k _ => ?_
  cases l[k]? <;> simp [Option.filter]

theorem getElem?_gather {β} (l : List β) : ∀ (idx : List Nat), (∀ i ∈ idx, i < l.length) →
    ∀ k : Nat, (gather l idx)[k]? = idx[k]?.bind (fun i : Nat => l[i]?)
  | [], _, _ => rfl
  | a :: idx, h, k => by
    have ha : a < l.length := h a List.mem_cons_self
    have hc : gather l (a :: idx) = l[a] :: gather l idx := by
      unfold gather
      rw [List.filterMap_cons, List.getElem?_eq_getElem ha]
    rw [hc]
    cases k with
    | zero => exact (List.getElem?_eq_getElem ha).symm
    | succ k => exact getElem?_gather l idx (fun i hi => h i (List.mem_cons_of_mem _ hi)) k

/-- fancy indexing composes: `l[idx][pos] = l[idx[pos]]` when `idx` holds valid positions of `l` -/
theorem gather_gather {β} (l : List β) (idx pos : List Nat) (h : ∀ i ∈ idx, i < l.length) :
    gather (gather l idx) pos = gather l (gather idx pos) := by
  show pos.filterMap (fun k => (gather l idx)[k]?)
      = (pos.filterMap (fun k => idx[k]?)).filterMap (fun i => l[i]?)
  rw [List.filterMap_filterMap]
  exact filterMap_congr fun k _ => getElem?_gather l idx h k

theorem applyNn_gather {β} (nn : Option (List Nat)) (l : List β) (idx : List Nat)
    (h : ∀ i ∈ idx, i < l.length) : applyNn nn (gather l idx) = gather l (applyNn nn idx) := by
  cases nn with
  | none => rfl
  | some pos => exact gather_gather l idx pos h

theorem gather_map_some {β} (l : List β) (idx : List Nat) (h : ∀ i ∈ idx, i < l.length) :
    (gather l idx).map some = idx.map (fun i => l[i]?) := by
  induction idx with
  | nil => rfl
  | cons a idx ih =>
    have ha : a < l.length := h a (by simp)
    have ih' := ih (fun i hi => h i (List.mem_cons_of_mem _ hi))
    unfold gather at *
    rw [List.filterMap_cons, List.getElem?_eq_getElem ha]
    simp only [List.map_cons, ih', List.getElem?_eq_getElem ha]

theorem deleteIdx_nil {β} (l : List β) : deleteIdx l [] = l := by
  unfold deleteIdx
  have : (List.range l.length).filter (fun i => !([] : List Nat).contains i) = List.range l.length := by
    apply List.filter_eq_self.mpr; intro i _; simp
  rw [this]
  exact gather_range_length l

theorem length_gather {β} (l : List β) (idx : List Nat) (h : ∀ i ∈ idx, i < l.length) :
    (gather l idx).length = idx.length := by
  have := congrArg List.length (gather_map_some l idx h)
  simpa using this

/-! ## frames, columns, export caches -/

theorem setCol_cons_ne {β} (c : Nat × List β) (cs : List (Nat × List β)) (v : Nat) (d : List β)
    (h : (c.1 == v) = false) : setCol (c :: cs) v d = c :: setCol cs v d := by
  have hne : ¬ c.1 = v := by simpa using h
  unfold setCol
  by_cases ha : cs.any (fun c => c.1 == v) = true
  · simp [h, ha, hne]
  · simp [h, ha]

theorem col_cons_ne {β} (c : Nat × List β) (cs : List (Nat × List β)) (v : Nat)
    (h : (c.1 == v) = false) : col (c :: cs) v = col cs v := by
  simp [col, h]

/-- the column just written is the column read back -/
theorem col_setCol {β} (cols : List (Nat × List β)) (v : Nat) (d : List β) :
    col (setCol cols v d) v = some d := by
  induction cols with
  | nil => simp [setCol, col]
  | cons c cs ih =>
    cases h : (c.1 == v) with
    | false => rw [setCol_cons_ne c cs v d h, col_cons_ne _ _ _ h, ih]
    | true =>
      have he : c.1 = v := by simpa using h
      simp [setCol, col, he]

/-- writing a column never touches geometry, and touches no other frame -/
theorem writeCol_get {β} (heap : List (Frame β)) (id v : Nat) (d : List β) (j : Nat) (fr : Frame β)
    (h : heap[j]? = some fr) :
    ∃ fr', (writeCol heap id v d)[j]? = some fr' ∧ fr'.rows = fr.rows ∧ fr'.tag = fr.tag ∧
      fr'.eng = fr.eng ∧ (j ≠ id → fr' = fr) ∧ (j = id → fr'.cols = setCol fr.cols v d) := by
  unfold writeCol
  cases hid : heap[id]? with
  | none => exact ⟨fr, h, rfl, rfl, rfl, fun _ => rfl, fun e => by subst e; rw [h] at hid; cases hid⟩
  | some f0 =>
    simp only
    by_cases e : j = id
    · subst e
      rw [h] at hid; cases hid
      have hj : j < heap.length := getElem?_lt h
      refine ⟨{ fr with cols := setCol fr.cols v d }, ?_, rfl, rfl, rfl, fun hne => absurd rfl hne,
        fun _ => rfl⟩
      simp [hj]
    · refine ⟨fr, ?_, rfl, rfl, rfl, fun _ => rfl, fun e' => absurd e' e⟩
      rw [List.getElem?_set]
      have : ¬ id = j := fun e' => e e'.symm
      simp [this, h]

theorem writeCol_length {β} (heap : List (Frame β)) (id v : Nat) (d : List β) :
    (writeCol heap id v d).length = heap.length := by
  unfold writeCol
  cases heap[id]? <;> simp

theorem gdfCore_cases {β} (R : Repairs) (g : G) (s : St β) (k : Key) (c o : Bool) :
    (k.pe = .split ∧ k.proj ≠ 0) ∧ gdfCore R g s k c o = (s, none) ∨
    ¬ (k.pe = .split ∧ k.proj ≠ 0) ∧
      ((∃ e, s.gdf = some e ∧ e.key = k ∧ o = false ∧ gdfCore R g s k c o =
          ({ s with gdfAm := if R.sideRestore then e.am else s.gdfAm }, some (e.id, e.nn))) ∨
        gdfCore R g s k c o = gdfCompute R g s k c) := by
  by_cases hk : k.pe = .split ∧ k.proj ≠ 0
  · exact Or.inl ⟨hk, by rw [gdfCore, if_pos hk]⟩
  · refine Or.inr ⟨hk, ?_⟩
    rw [gdfCore, if_neg hk]
    cases hs : s.gdf with
    | none => exact Or.inr rfl
    | some e =>
      by_cases hh : e.key = k ∧ o = false
      · exact Or.inl ⟨e, rfl, hh.1, hh.2, if_pos hh⟩
      · exact Or.inr (if_neg hh)

theorem polyCore_cases {β} (R : Repairs) (g : G) (s : St β) (pe : Pe) (p : Nat) (c o : Bool) :
    (∃ e, s.poly = some e ∧ e.pe = pe ∧ e.proj = p ∧ o = false ∧ polyCore R g s pe p c o =
        ({ s with polyNn := if R.sideRestore then e.nn else s.polyNn,
                  polyAm := if R.sideRestore then e.am else s.polyAm }, some (e.rows, e.c2o, e.tag))) ∨
    (pe = .split ∧ p ≠ 0) ∧ polyCore R g s pe p c o = (s, none) ∨
    ¬ (pe = .split ∧ p ≠ 0) ∧ polyCore R g s pe p c o = polyCompute R g s pe p c := by
  have hcomp : ∀ x, x = (if pe = .split ∧ p ≠ 0 then (s, none) else polyCompute R g s pe p c) →
      (pe = .split ∧ p ≠ 0) ∧ x = (s, none) ∨
      ¬ (pe = .split ∧ p ≠ 0) ∧ x = polyCompute R g s pe p c := fun x hx => by
    by_cases hk : pe = .split ∧ p ≠ 0
    · exact Or.inl ⟨hk, hx.trans (if_pos hk)⟩
    · exact Or.inr ⟨hk, hx.trans (if_neg hk)⟩
  rw [polyCore]
  cases hs : s.poly with
  | none => exact Or.inr (hcomp _ rfl)
  | some e =>
    by_cases hh : e.pe = pe ∧ e.proj = p ∧ o = false
    · exact Or.inl ⟨e, rfl, hh.1, hh.2.1, hh.2.2, if_pos hh⟩
    · exact Or.inr (hcomp _ (if_neg hh))

/-- `Grid.to_geodataframe` never touches a frame that exists already; a frame it CREATES gets the
    next free address -/
theorem gdfCore_heap {β} (R : Repairs) (g : G) (s : St β) (k : Key) (c o : Bool) {s1 : St β}
    {r : Option (Nat × Option (List Nat))} (h : gdfCore R g s k c o = (s1, r)) :
    (∀ (j : Nat) (fr : Frame β), s.heap[j]? = some fr → s1.heap[j]? = some fr) ∧
    (o = true → ∀ id nn, r = some (id, nn) → id = s.heap.length) := by
  rcases gdfCore_cases R g s k c o with ⟨-, e⟩ | ⟨-, ⟨e, -, -, ho, e'⟩ | e'⟩
  · cases e.symm.trans h
    exact ⟨fun _ _ h => h, fun _ _ _ h => by cases h⟩
  · cases e'.symm.trans h
    exact ⟨fun _ _ h => h, fun ho' => by rw [ho] at ho'; cases ho'⟩
  · cases e'.symm.trans h
    exact ⟨fun _ _ hj => getElem?_append_kept _ hj, fun _ _ _ h => by cases h; rfl⟩

theorem polyCore_heap {β} (R : Repairs) (g : G) (s : St β) (pe : Pe) (p : Nat) (c o : Bool) {s1 : St β}
    {r : Option (List Nat × List Nat × Nat)} (h : polyCore R g s pe p c o = (s1, r)) :
    s1.heap = s.heap := by
  rcases polyCore_cases R g s pe p c o with ⟨e, -, -, -, -, e'⟩ | ⟨-, e'⟩ | ⟨-, e'⟩ <;>
    cases e'.symm.trans h <;> rfl

theorem lineCore_heap {β} (R : Repairs) (g : G) (s : St β) (pe : Pe) (p : Nat) (c o : Bool) {s1 : St β}
    {r : List Nat × Nat} (h : lineCore R g s pe p c o = (s1, r)) : s1.heap = s.heap := by
  unfold lineCore at h
  split at h
  · split at h <;> cases h <;> rfl
  · cases h; rfl

theorem attachCol_kept {β} (R : Repairs) (heap : List (Frame β)) (id v : Nat) (d : List β) (j : Nat)
    (f0 : Frame β) (hj : heap[j]? = some f0) :
    ∃ f1, (attachCol R heap id v d).1[j]? = some f1 ∧ f1.rows = f0.rows ∧ f1.tag = f0.tag ∧
      f1.eng = f0.eng ∧ (R.copyFrame = true ∨ j ≠ id → f1 = f0) := by
  unfold attachCol
  cases R.copyFrame with
  | true =>
    rw [if_pos rfl]
    split
    · exact ⟨f0, getElem?_append_kept _ hj, rfl, rfl, rfl, fun _ => rfl⟩
    · exact ⟨f0, hj, rfl, rfl, rfl, fun _ => rfl⟩
  | false =>
    rw [if_neg Bool.false_ne_true]
    obtain ⟨f1, g1, g2, g3, g4, g5, _⟩ := writeCol_get heap id v d j f0 hj
    exact ⟨f1, g1, g2, g3, g4, fun h => h.elim (fun hc => nomatch hc) g5⟩

theorem attachCol_result {β} (R : Repairs) (heap : List (Frame β)) (id v : Nat) (d : List β) (fr : Frame β)
    (h : heap[id]? = some fr) :
    ∃ fr', (attachCol R heap id v d).1[(attachCol R heap id v d).2]? = some fr' ∧
      fr'.rows = fr.rows ∧ fr'.tag = fr.tag ∧ col fr'.cols v = some d := by
  unfold attachCol
  cases R.copyFrame with
  | true =>
    simp only [if_true, h]
    exact ⟨{ fr with cols := setCol fr.cols v d }, by simp, rfl, rfl, col_setCol _ _ _⟩
  | false =>
    simp only [Bool.false_eq_true, if_false]
    obtain ⟨fr', hw1, hw2, hw3, _, _, hw6⟩ := writeCol_get heap id v d id fr h
    exact ⟨fr', hw1, hw2, hw3, by rw [hw6 rfl]; exact col_setCol _ _ _⟩

end UxVerif.Polys
