/-
  `partsOf_ok` (C17): a list sorted by a key is the concatenation of its blocks of equal key
  (`sorted_decomp`); the cumulative counts cut it at the block boundaries (`slice_changeOf`).
  Then scatter and gather (`scatter_eq_map`).
-/
import Mathlib.Algebra.BigOperators.Group.List.Lemmas
import UxVerif.Lemmas.SortUniq
import UxVerif.Lemmas.Keyed
import UxVerif.Lemmas.Rows
import UxVerif.Model.Aggregate

namespace UxVerif.Aggregate
open UxVerif UxVerif.Incidence

/-- running sums starting after `s` -/
def runSums (s : Nat) : List Nat → List Nat
  | [] => []
  | c :: cs => (s + c) :: runSums (s + c) cs

theorem changeOf_foldl_eq (cnt : Nat → Nat) (sizes : List Nat) (acc : List Nat) :
    sizes.foldl (fun acc e => acc ++ [acc.getLastD 0 + cnt e]) acc
      = acc ++ runSums (acc.getLastD 0) (sizes.map cnt) := by
  induction sizes generalizing acc with
  | nil => exact (List.append_nil acc).symm
  | cons e es ih =>
    rw [List.foldl_cons, ih, List.getLastD_concat, List.append_assoc]
    rfl

theorem changeOf_eq (N sizes : List Nat) :
    changeOf N sizes = 0 :: runSums 0 (sizes.map (fun e => N.count e)) := by
  rw [changeOf, changeOf_foldl_eq (fun e => N.count e)]
  rfl

theorem runSums_getD (cs : List Nat) (s k : Nat) (hk : k ≤ cs.length) :
    (s :: runSums s cs).getD k 0 = s + (cs.take k).sum := by
  induction cs generalizing s k with
  | nil =>
    obtain rfl := Nat.le_zero.mp hk
    rfl
  | cons c cs ih =>
    cases k with
    | zero => rfl
    | succ k =>
      rw [runSums, List.getD_cons_succ, ih (s + c) k (Nat.le_of_succ_le_succ hk),
        List.take_succ_cons, List.sum_cons, Nat.add_assoc]

theorem changeOf_getD (N sizes : List Nat) (k : Nat) (hk : k ≤ sizes.length) :
    (changeOf N sizes).getD k 0 = ((sizes.map (fun e => N.count e)).take k).sum := by
  rw [changeOf_eq, runSums_getD _ _ _ (by rwa [List.length_map]), Nat.zero_add]

theorem changeOf_congr {N N' : List Nat} (h : ∀ e, N.count e = N'.count e) (sizes : List Nat) :
    changeOf N sizes = changeOf N' sizes := by
  unfold changeOf
  simp only [h]

/-! ## blocks of equal key -/

/-- `Pairwise …`: the elements satisfying `p` form a prefix -/
theorem filter_append_filter_not {α : Type} (p : α → Bool) (l : List α)
    (h : l.Pairwise (fun a b => p b = true → p a = true)) :
    l.filter p ++ l.filter (fun a => !p a) = l := by
  induction l with
  | nil => rfl
  | cons a l ih =>
    obtain ⟨ha, hl⟩ := List.pairwise_cons.mp h
    cases hp : p a with
    | true => simp [hp, ih hl]
    | false =>
      have hnone : ∀ b ∈ l, p b = false := fun b hb =>
        Bool.eq_false_iff.mpr fun hb' => Bool.false_ne_true (hp ▸ ha b hb hb')
      have h1 : l.filter p = [] := List.filter_eq_nil_iff.mpr fun b hb => by simp [hnone b hb]
      have h2 : l.filter (fun a => !p a) = l := List.filter_eq_self.mpr fun b hb => by simp [hnone b hb]
      simp [hp, h1, h2]

theorem length_filter_key {α : Type} (g : α → Nat) (l : List α) (e : Nat) :
    (l.filter (fun a => g a == e)).length = (l.map g).count e := by
  rw [List.count_eq_countP, List.countP_map, List.countP_eq_length_filter]
  rfl

theorem sorted_decomp {α : Type} (g : α → Nat) (sizes : List Nat) (l : List α)
    (hs : sizes.Pairwise (· < ·)) (hv : (l.map g).Pairwise (· ≤ ·)) (hm : ∀ a ∈ l, g a ∈ sizes) :
    (sizes.map (fun e => l.filter (fun a => g a == e))).flatten = l := by
  induction sizes generalizing l with
  | nil =>
    cases l with
    | nil => rfl
    | cons a l => exact absurd (hm a List.mem_cons_self) List.not_mem_nil
  | cons e rest ih =>
    obtain ⟨he, hrest⟩ := List.pairwise_cons.mp hs
    have hge : ∀ a ∈ l, e ≤ g a := fun a ha => by
      rcases List.mem_cons.mp (hm a ha) with h | h
      · exact h.ge
      · exact (he _ h).le
    rw [List.pairwise_map] at hv
    -- peel off the block of the least key `e`
    have hsplit := filter_append_filter_not (fun a => g a == e) l
      (hv.imp_of_mem fun {a b} ha _ hab hb =>
        beq_iff_eq.mpr (Nat.le_antisymm (beq_iff_eq.mp hb ▸ hab) (hge a ha)))
    have hm' : ∀ a ∈ l.filter (fun a => !(g a == e)), g a ∈ rest := fun a ha => by
      obtain ⟨hal, hne⟩ := List.mem_filter.mp ha
      rcases List.mem_cons.mp (hm a hal) with h | h
      · rw [h, beq_self_eq_true] at hne
        exact Bool.noConfusion hne
      · exact h
    have ih' := ih (l.filter (fun a => !(g a == e))) hrest
      (List.pairwise_map.mpr (hv.filter _)) hm'
    -- for a later key `e'`, filtering the remainder is filtering `l`
    have hblocks : rest.map (fun e' => (l.filter (fun a => !(g a == e))).filter (fun a => g a == e'))
        = rest.map (fun e' => l.filter (fun a => g a == e')) := by
      apply List.map_congr_left
      intro e' he'
      have hne : e' ≠ e := (he e' he').ne'
      rw [List.filter_filter]
      apply List.filter_congr
      intro a _
      rw [Bool.and_eq_left_iff_imp, Bool.not_eq_true', beq_eq_false_iff_ne]
      intro h
      exact beq_iff_eq.mp h ▸ hne
    rw [hblocks] at ih'
    rw [List.map_cons, List.flatten_cons, ih']
    exact hsplit

theorem slice_flatten (L : List (List Nat)) (k : Nat) (hk : k < L.length) :
    slice L.flatten ((L.map List.length).take k).sum ((L.map List.length).take (k + 1)).sum
      = L[k] := by
  unfold slice
  rw [← List.drop_take]
  exact List.drop_take_succ_flatten_eq_getElem L k hk

/-- `changeOf` looks at `N` only through counts -/
theorem slice_changeOf (g : Nat → Nat) (N sizes perm : List Nat) (hN : (perm.map g).Perm N)
    (hs : sizes.Pairwise (· < ·)) (hv : (perm.map g).Pairwise (· ≤ ·))
    (hm : ∀ f ∈ perm, g f ∈ sizes) (k : Nat) (hk : k < sizes.length) :
    slice perm ((changeOf N sizes).getD k 0) ((changeOf N sizes).getD (k + 1) 0)
      = perm.filter (fun f => g f == sizes[k]) := by
  have h := slice_flatten (sizes.map (fun e => perm.filter (fun f => g f == e))) k
    (by rwa [List.length_map])
  have hlen : (sizes.map (fun e => perm.filter (fun f => g f == e))).map List.length
      = sizes.map (fun e => (perm.map g).count e) := by
    rw [List.map_map]
    exact List.map_congr_left fun e _ => length_filter_key g perm e
  rw [sorted_decomp g sizes perm hs hv hm, hlen, List.getElem_map] at h
  rw [changeOf_congr fun e => (hN.count_eq e).symm, changeOf_getD _ _ k hk.le,
    changeOf_getD _ _ (k + 1) hk]
  exact h

/-! ## `uniqNat` -/

theorem uniqNat_mem (N : List Nat) (e : Nat) : e ∈ uniqNat N ↔ e ∈ N := by
  unfold uniqNat
  simp only [List.mem_map, mem_uniqInt]
  constructor
  · rintro ⟨a, ⟨b, hb, rfl⟩, rfl⟩; simpa using hb
  · intro h; exact ⟨(e : Int), ⟨e, h, rfl⟩, by simp⟩

theorem uniqNat_sorted (N : List Nat) : (uniqNat N).Pairwise (· < ·) := by
  unfold uniqNat
  rw [List.pairwise_map]
  have hs : SortedBy intLt (uniqInt (N.map Int.ofNat)) := sorted_sortUniqBy intLt_strictTotal _
  unfold SortedBy at hs
  refine List.Pairwise.imp_of_mem ?_ hs
  intro a b ha hb hab
  have ha' := (mem_uniqInt a _).mp ha
  have hb' := (mem_uniqInt b _).mp hb
  obtain ⟨x, _, rfl⟩ := List.mem_map.mp ha'
  obtain ⟨y, _, rfl⟩ := List.mem_map.mp hb'
  simp only [intLt, decide_eq_true_eq, Int.ofNat_eq_natCast] at hab
  simp only [Int.ofNat_eq_natCast, Int.toNat_natCast]
  omega

/-- `get_face_node_partitions` groups the faces by size for every sorting permutation -/
theorem partsOf_ok (N perm : List Nat) (h : SortsBy N perm) :
    PartsOK N.length N (partsOf N perm) := by
  obtain ⟨hlen, hall, hsorted⟩ := h
  have hperm : (List.range N.length).Perm perm := by
    apply List.Subperm.perm_of_length_le
    · exact List.subperm_of_subset List.nodup_range (fun f hf => hall f (List.mem_range.mp hf))
    · rw [List.length_range, hlen]
  have hlt : ∀ f ∈ perm, f < N.length := fun f hf => List.mem_range.mp (hperm.mem_iff.mpr hf)
  have hN : (List.range N.length).map (fun f => N.getD f 0) = N := by
    apply List.ext_getElem
    · rw [List.length_map, List.length_range]
    · intro i h1 h2
      rw [List.getElem_map, List.getElem_range, List.getD_eq_getElem?_getD,
        List.getElem?_eq_getElem h2, Option.getD_some]
  have hvals : (perm.map (fun f => N.getD f 0)).Perm N := by
    have := (hperm.map (fun f => N.getD f 0)).symm
    rwa [hN] at this
  have hmem : ∀ f ∈ perm, N.getD f 0 ∈ uniqNat N := fun f hf =>
    (uniqNat_mem N _).mpr (hvals.mem_iff.mp (List.mem_map_of_mem hf))
  have hslice : ∀ k (hk : k < (uniqNat N).length),
      slice (partsOf N perm).perm ((partsOf N perm).change.getD k 0)
          ((partsOf N perm).change.getD (k + 1) 0)
        = perm.filter (fun f => N.getD f 0 == (uniqNat N)[k]) := fun k hk => by
    show slice perm ((changeOf N _).getD k 0) ((changeOf N _).getD (k + 1) 0) = _
    exact slice_changeOf _ N _ perm hvals (uniqNat_sorted N) hsorted hmem k hk
  refine ⟨fun k hk f hf => ?_, fun f hf => ?_⟩
  · rw [hslice k hk] at hf
    obtain ⟨hfp, hfk⟩ := List.mem_filter.mp hf
    exact ⟨hlt f hfp, (beq_iff_eq.mp hfk).trans (List.getElem_eq_getD 0)⟩
  · obtain ⟨k, hk, e⟩ := List.getElem_of_mem (hmem f (hall f hf))
    refine ⟨k, List.mem_range.mpr hk, ?_⟩
    rw [hslice k hk]
    exact List.mem_filter.mpr ⟨hall f hf, beq_iff_eq.mpr e.symm⟩

/-! ## scatter and gather -/

theorem scatter_eq_map {β : Type} (n : Nat) (ev : List (Nat × β)) (val : Nat → β)
    (hcov : ∀ f, f < n → ∃ v, (f, v) ∈ ev) (hval : ∀ f v, (f, v) ∈ ev → v = val f) :
    keyedFold (fun _ v => some v) (List.replicate n none) ev
      = (List.range n).map (fun f => some (val f)) := by
  apply List.ext_getElem?
  intro f
  rw [keyedFold_get, List.getElem?_replicate, List.getElem?_map]
  by_cases hf : f < n
  · obtain ⟨v, hv⟩ := hcov f hf
    have hne : feed ev f ≠ [] := List.ne_nil_of_mem ((mem_feed ev f v).mpr hv)
    -- the cell keeps the last value fed
    rw [if_pos hf, List.getElem?_range hf, Option.map_some, Option.map_some,
      ← List.dropLast_concat_getLast hne, List.foldl_append]
    exact congrArg (fun v => some (some v)) (hval f _ ((mem_feed ev f _).mp (List.getLast_mem hne)))
  · rw [if_neg hf, List.getElem?_eq_none (by rw [List.length_range]; exact Nat.le_of_not_lt hf)]
    rfl

theorem mem_writes {α β : Type} (red : List α → β) (data : Int → α) (t : Table) (p : Parts)
    (f : Nat) (v : β) :
    (f, v) ∈ writes red data t p ↔
      ∃ k, k < p.sizes.length ∧
        f ∈ slice p.perm (p.change.getD k 0) (p.change.getD (k + 1) 0) ∧
        v = red ((gather t f (p.sizes.getD k 0)).map data) := by
  unfold writes
  simp only [List.mem_flatMap, List.mem_range, List.mem_map, Prod.mk.injEq]
  constructor
  · rintro ⟨k, hk, f', hf', rfl, rfl⟩
    exact ⟨k, hk, hf', rfl⟩
  · rintro ⟨k, hk, hf, rfl⟩
    exact ⟨k, hk, f, hf, rfl, rfl⟩

theorem gather_nNodesRow (t : Table) (f : Nat) :
    gather t f (Edges.nNodesRow (rowAt t f)) = faceOf (rowAt t f) := by
  rw [gather, Edges.nNodesRow_any]
  exact (congrArg (List.take _) (split_faceOf _)).trans List.take_left

theorem faceRef_nNodesPerFace {α β : Type} (red : List α → β) (data : Int → α) (t : Table) :
    faceRef red data t (Edges.nNodesPerFace t) = t.map (fun r => some (red ((faceOf r).map data))) := by
  apply List.ext_getElem
  · simp only [faceRef, List.length_map, List.length_range]
  · intro f _ h2
    have hf : f < t.length := by rwa [List.length_map] at h2
    simp only [faceRef, List.getElem_map, List.getElem_range]
    rw [Edges.nNodesPerFace_getD, gather_nNodesRow, rowAt_getElem _ _ hf]

theorem subTable_stdForm {n w n' : Nat} {t : Table} (h : Edges.StdForm n w t)
    (idx : List Nat) (hidx : ∀ f ∈ idx, f < t.length)
    (ren : Int → Int) (hren : ∀ x, ren x = FILL ↔ x = FILL)
    (hrng : ∀ f ∈ idx, ∀ x ∈ faceOf (rowAt t f), 0 ≤ ren x ∧ ren x < n') :
    Edges.StdForm n' w (subTable t idx ren) := by
  intro r' hr'
  obtain ⟨f, hf, rfl⟩ := List.mem_map.mp hr'
  exact Edges.stdRow_map hren (h _ (rowAt_mem (hidx f hf))) (hrng f hf)

end UxVerif.Aggregate
