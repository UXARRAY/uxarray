/-
  Request histories on a grid's dataset (`Model/Slice.lean` §6): the tables `Base` a grid's derived
  variables are functions of, coherence `Coh` of a `State` with its base, and the relation `Step`
  that every getter, every request (`request_step`) and every history (`runHist_step`) keeps.
  `Props/C09.lean` §7 and `Props/C09x.lean` build on these.  Declared in namespace `UxVerif.C09`.
-/
import UxVerif.Lemmas.Slice

namespace UxVerif.C09
open UxVerif UxVerif.Slice UxVerif.Edges

/-- the tables a grid's derived variables are functions of -/
structure Base where
  w : Nat
  t : Table
  EN : List (Int × Int)
  FE : Table

def Base.N (B : Base) : List Nat := nNodesPerFace B.t
def Base.NF (B : Base) : Table := Incidence.nodeFace (nNodeOf B.t) B.t
def Base.EF (B : Base) : List (Int × Int) := Incidence.edgeFace B.FE B.N B.EN.length
def Base.FF (B : Base) : Table := Incidence.faceFace B.t.length B.w B.EF
def Base.H (B : Base) : List Nat := Incidence.holeEdges B.EF

def Base.EFD (B : Base) : List (Option (Int × Int)) := efdOf B.EF

/-- what every request on a grid with base `B` reports -/
def Base.view (B : Base) : View :=
  { en := B.EN, fe := B.FE, npf := B.N, nf := B.NF, ef := B.EF, ff := B.FF, holes := B.H }

/-- a lazily materialised variable: not yet there, or holding `v` -/
def optIs {α} (o : Option α) (v : α) : Prop := o = none ∨ o = some v

theorem optIs.of_isSome {α} {o : Option α} {v : α} (h : optIs o v) (hs : o.isSome = true) : o = some v := by
  rcases h with h | h
  · rw [h] at hs; cases hs
  · exact h

theorem optIs.map {α β} {o : Option α} {v : α} (h : optIs o v) (f : α → β) : optIs (o.map f) (f v) :=
  h.imp (fun e => by rw [e]; rfl) (fun e => by rw [e]; rfl)

/-- coherence of a grid's dataset: every materialised variable holds the value determined by the
    base tables, and the edge tables are either both there or can still be built consistently
    (the `inverse_indices` attribute belongs to THIS grid's faces).  The three cases of `ready`:
    both edge tables are there (`inv` is then never read again, hence unconstrained); no
    `face_edge_connectivity` yet and the edges are, or will be, this grid's own construction, whose
    `inverse_indices` reshape to `FE`; the source supplied `edge_node_connectivity` without
    `inverse_indices`, and the faces' edges are looked up in it -/
structure Coh (B : Base) (g : State) : Prop where
  w : g.w = B.w
  t : g.t = B.t
  en : optIs g.en B.EN
  fe : optIs g.fe B.FE
  npf : optIs g.npf B.N
  nf : optIs g.nf B.NF
  ef : optIs g.ef B.EF
  ff : optIs g.ff B.FF
  holes : optIs g.holes B.H
  ready : (g.en = some B.EN ∧ g.fe = some B.FE) ∨
    (g.fe = none ∧ B.EN = edges B.t ∧ B.FE = reshape B.w (faceEdges B.t).flatten ∧
      (faceEdges B.t).flatten.length = B.t.length * B.w ∧
      (g.en = none ∨ (g.en = some B.EN ∧ g.inv = some (faceEdges B.t).flatten))) ∨
    (g.fe = none ∧ g.en = some B.EN ∧ g.inv = none ∧ lookupFE B.t B.EN = some B.FE)

/-- a materialised `edge_face_distances` holds this grid's own value.  Kept outside `Coh`: the subset
    the as-is slicer produces is coherent in every other variable but not in this one, and the
    theorems about the other variables must not assume it -/
def EfdOK (B : Base) (g : State) : Prop := optIs g.efd B.EFD

/-- `Coh` does not read `backing` or `efd` -/
theorem Coh.frame {B : Base} {g : State} (h : Coh B g) (b : Backing)
    (e : Option (List (Option (Int × Int)))) : Coh B { g with backing := b, efd := e } :=
  ⟨h.w, h.t, h.en, h.fe, h.npf, h.nf, h.ef, h.ff, h.holes, h.ready⟩

theorem Coh.backing {B : Base} {g : State} (h : Coh B g) (b : Backing) : Coh B { g with backing := b } :=
  h.frame b g.efd

/-- what requests do to a coherent grid: it stays coherent, an edge table that is there is not
    replaced, and a materialised `edge_face_distances` that held the grid's own value still does -/
structure Step (B : Base) (g g' : State) : Prop where
  coh : Coh B g'
  en : g.en = some B.EN → g'.en = some B.EN
  efd : EfdOK B g → EfdOK B g'

theorem Step.refl {B : Base} {g : State} (h : Coh B g) : Step B g g := ⟨h, id, id⟩

theorem Step.trans {B : Base} {g g1 g2 : State} (s : Step B g g1) (s' : Step B g1 g2) : Step B g g2 :=
  ⟨s'.coh, s'.en ∘ s.en, s'.efd ∘ s.efd⟩

/-- a coherent `g'` that left `en` and `efd` alone is a step -/
theorem Step.of_frame {B : Base} {g g' : State} (h : Coh B g') (hen : g'.en = g.en)
    (hefd : g'.efd = g.efd) : Step B g g' :=
  ⟨h, fun e => hen.trans e, fun e => by rw [EfdOK, hefd]; exact e⟩

theorem getEN_of_some {g : State} {E : List (Int × Int)} (h : g.en = some E) : getEN g = g := by
  unfold getEN; rw [h]; rfl

theorem getEN_of_none {g : State} (h : g.en = none) : getEN g = popEN g := by
  unfold getEN; rw [h]; rfl

theorem getEN_step {B : Base} {g : State} (h : Coh B g) :
    Step B g (getEN g) ∧ (getEN g).en = some B.EN := by
  rcases h.en with hn | hs
  · rw [getEN_of_none hn]
    rcases h.ready with ⟨h1, _⟩ | ⟨hfe, hE, hF, hL, _⟩ | ⟨_, h1, _⟩
    · rw [hn] at h1; cases h1
    · have e1 : (popEN g).en = some B.EN := by rw [hE, ← h.t]; rfl
      have e2 : (popEN g).inv = some (faceEdges B.t).flatten := by rw [← h.t]; rfl
      exact ⟨⟨{ h with en := Or.inr e1, ready := Or.inr (Or.inl ⟨hfe, hE, hF, hL, Or.inr ⟨e1, e2⟩⟩) },
        fun _ => e1, id⟩, e1⟩
    · rw [hn] at h1; cases h1
  · rw [getEN_of_some hs]; exact ⟨.refl h, hs⟩

theorem finishFE_eq {g : State} {v : List Int} (hinv : g.inv = some v)
    (hl : v.length = g.t.length * g.w) : finishFE g = some { g with fe := some (reshape g.w v) } := by
  unfold finishFE; rw [hinv]; exact if_pos hl

theorem getFE_eq {B : Base} {g : State} (h : Coh B g) :
    getFE g = some { getEN g with fe := some B.FE } := by
  unfold getFE
  rcases h.ready with ⟨hen, hfe⟩ | ⟨hfe, hE, hF, hL, hen⟩ | ⟨hfe, hen, hinv, hlk⟩
  · rw [getEN_of_some hen, if_pos (by rw [hfe]; rfl), ← hfe]
  · -- the edges are this grid's own construction: `inverse_indices` (rebuilt if need be) is reshaped
    have fin : ∀ {g1 : State}, Coh B g1 → g1.inv = some (faceEdges B.t).flatten →
        finishFE g1 = some { g1 with fe := some B.FE } := fun c i => by
      rw [finishFE_eq i (by rw [c.t, c.w]; exact hL), c.w, ← hF]
    rw [if_neg (by rw [hfe]; exact Bool.false_ne_true)]
    rcases hen with hen | ⟨hen, hinv⟩
    · rw [hen, getEN_of_none hen]
      have c := (getEN_step h).1.coh
      rw [getEN_of_none hen] at c
      exact fin c (by rw [← h.t]; rfl)
    · rw [hen, hinv, getEN_of_some hen]
      exact fin h hinv
  · -- the source's own edge table is kept: the faces' edges are looked up in it
    have hlk' : lookupFE g.t B.EN = some B.FE := by rw [h.t]; exact hlk
    rw [getEN_of_some hen, if_neg (by rw [hfe]; exact Bool.false_ne_true)]
    simp only [hen, hinv, hlk']

theorem getFE_step {B : Base} {g : State} (h : Coh B g) :
    ∃ g', getFE g = some g' ∧ Step B g g' ∧ g'.en = some B.EN ∧ g'.fe = some B.FE :=
  have ⟨s, e⟩ := getEN_step h
  -- after `getFE` the state is `getEN g` with `fe` set, and `ready` moves to its first case
  have c : Coh B { getEN g with fe := some B.FE } :=
    { s.coh with fe := Or.inr rfl, ready := Or.inl ⟨e, rfl⟩ }
  ⟨_, getFE_eq h, s.trans (.of_frame c rfl rfl), e, rfl⟩

theorem getNPF_eq {B : Base} {g : State} (h : Coh B g) : getNPF g = { g with npf := some B.N } := by
  unfold getNPF
  by_cases hs : g.npf.isSome = true
  · rw [if_pos hs, ← optIs.of_isSome h.npf hs]
  · rw [if_neg hs, h.t]; rfl

theorem getNF_eq {B : Base} {g : State} (h : Coh B g) : getNF g = { g with nf := some B.NF } := by
  unfold getNF
  by_cases hs : g.nf.isSome = true
  · rw [if_pos hs, ← optIs.of_isSome h.nf hs]
  · rw [if_neg hs, h.t]; rfl

theorem getNPF_step {B : Base} {g : State} (h : Coh B g) :
    Step B g (getNPF g) ∧ (getNPF g).npf = some B.N := by
  rw [getNPF_eq h]; exact ⟨.of_frame { h with npf := Or.inr rfl } rfl rfl, rfl⟩

theorem getNF_step {B : Base} {g : State} (h : Coh B g) :
    Step B g (getNF g) ∧ (getNF g).nf = some B.NF := by
  rw [getNF_eq h]; exact ⟨.of_frame { h with nf := Or.inr rfl } rfl rfl, rfl⟩

theorem getEF_step {B : Base} {g : State} (h : Coh B g) :
    ∃ g', getEF g = some g' ∧ Step B g g' ∧ g'.ef = some B.EF := by
  unfold getEF
  by_cases hs : g.ef.isSome = true
  · rw [if_pos hs]; exact ⟨g, rfl, .refl h, optIs.of_isSome h.ef hs⟩
  · obtain ⟨g1, h1, s1, en1, fe1⟩ := getFE_step h
    rw [if_neg hs, h1, Option.bind_eq_bind, Option.bind_some, getEN_of_some en1, getNPF_eq s1.coh]
    have e : some (Incidence.edgeFace (g1.fe.getD []) B.N (g1.en.getD []).length) = some B.EF := by
      rw [fe1, en1]; rfl
    exact ⟨_, rfl, s1.trans (.of_frame { s1.coh with npf := Or.inr rfl, ef := Or.inr e } rfl rfl), e⟩

/-- the getters of the variables derived from `edge_face_connectivity` have one shape: the cached
    value, or `getEF` and one more field (`getFF g`, `getHoles g`, `getEFD g` are this term by
    definition, which is how the three corollaries below typecheck) -/
theorem viaEF_step {B : Base} {g : State} (h : Coh B g) {c : Prop} [Decidable c] {set : State → State}
    {P : State → Prop} (hc : c → P g)
    (hset : ∀ g1, Coh B g1 → g1.ef = some B.EF → Step B g1 (set g1) ∧ P (set g1)) :
    ∃ g', (if c then some g else (getEF g).bind fun g1 => some (set g1)) = some g' ∧
      Step B g g' ∧ P g' := by
  by_cases hs : c
  · rw [if_pos hs]; exact ⟨g, rfl, .refl h, hc hs⟩
  · obtain ⟨g1, h1, s1, e1⟩ := getEF_step h
    obtain ⟨s2, p2⟩ := hset g1 s1.coh e1
    rw [if_neg hs, h1]
    exact ⟨_, rfl, s1.trans s2, p2⟩

theorem getFF_step {B : Base} {g : State} (h : Coh B g) :
    ∃ g', getFF g = some g' ∧ Step B g g' ∧ g'.ff = some B.FF :=
  viaEF_step h (c := g.ff.isSome = true)
    (set := fun g1 => { g1 with ff := some (Incidence.faceFace g1.t.length g1.w (g1.ef.getD [])) })
    (optIs.of_isSome h.ff) fun g1 c1 e1 =>
    have e : some (Incidence.faceFace g1.t.length g1.w (g1.ef.getD [])) = some B.FF := by
      rw [e1, Option.getD_some, c1.t, c1.w]; rfl
    ⟨.of_frame { c1 with ff := Or.inr e } rfl rfl, e⟩

theorem getHoles_step {B : Base} {g : State} (h : Coh B g) :
    ∃ g', getHoles g = some g' ∧ Step B g g' ∧ g'.holes = some B.H :=
  viaEF_step h (c := g.holes.isSome = true)
    (set := fun g1 => { g1 with holes := some (Incidence.holeEdges (g1.ef.getD [])) })
    (optIs.of_isSome h.holes) fun g1 c1 e1 =>
    have e : some (Incidence.holeEdges (g1.ef.getD [])) = some B.H := by rw [e1, Option.getD_some]; rfl
    ⟨.of_frame { c1 with holes := Or.inr e } rfl rfl, e⟩

theorem getEFD_step {B : Base} {g : State} (h : Coh B g) :
    ∃ g', getEFD g = some g' ∧ Step B g g' ∧ (EfdOK B g → g'.efd = some B.EFD) :=
  viaEF_step h (c := g.efd.isSome = true)
    (set := fun g1 => { g1 with efd := some (efdOf (g1.ef.getD [])) })
    (fun hs he => optIs.of_isSome he hs) fun g1 c1 e1 =>
    have e : some (efdOf (g1.ef.getD [])) = some B.EFD := by rw [e1, Option.getD_some]; rfl
    ⟨⟨c1.frame g1.backing _, id, fun _ => Or.inr e⟩, fun _ => e⟩

/-- no request on a coherent grid raises (`Grid.chunk` is one of the requests: it changes the backing
    of the arrays and no value) -/
theorem request_step {B : Base} {g : State} (h : Coh B g) (v : Var) :
    ∃ g', request g v = some g' ∧ Step B g g' := by
  cases v with
  | edgeNode => exact ⟨_, rfl, (getEN_step h).1⟩
  | faceEdge => exact (getFE_step h).imp fun _ p => ⟨p.1, p.2.1⟩
  | nPerFace => exact ⟨_, rfl, (getNPF_step h).1⟩
  | nodeFace => exact ⟨_, rfl, (getNF_step h).1⟩
  | edgeFace => exact (getEF_step h).imp fun _ p => ⟨p.1, p.2.1⟩
  | faceFace => exact (getFF_step h).imp fun _ p => ⟨p.1, p.2.1⟩
  | holes => exact (getHoles_step h).imp fun _ p => ⟨p.1, p.2.1⟩
  | edgeFaceDist => exact (getEFD_step h).imp fun _ p => ⟨p.1, p.2.1⟩
  | chunk => exact ⟨_, rfl, .of_frame (Coh.backing h .dask) rfl rfl⟩

theorem runHist_step {B : Base} {g : State} (h : Coh B g) (hist : List Var) :
    ∃ g', runHist g hist = some g' ∧ Step B g g' := by
  induction hist generalizing g with
  | nil => exact ⟨g, rfl, .refl h⟩
  | cons v vs ih =>
    obtain ⟨g1, h1, s1⟩ := request_step h v
    obtain ⟨g2, h2, s2⟩ := ih s1.coh
    exact ⟨g2, by rw [runHist, h1]; exact h2, s1.trans s2⟩

end UxVerif.C09
